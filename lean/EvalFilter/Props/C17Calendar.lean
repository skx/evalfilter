/-
  C17 (calendar part) — the civil-date algorithm behind day/month/year (`civilFromDays`) inverts the textbook
  day count, on a sample of days.
-/
import EvalFilter.Model.Builtins

namespace EvalFilter.Props.C17Calendar
open EvalFilter.Builtins

/-- days since 1970-01-01 of a proleptic-Gregorian civil date (the textbook formula) -/
def daysFromCivil (y : Int) (m d : Nat) : Int :=
  let y' := if m ≤ 2 then y - 1 else y
  let era := (if y' ≥ 0 then y' else y' - 399) / 400
  let yoe := (y' - era * 400).toNat
  let mp := if m > 2 then m - 3 else m + 9
  let doy := (153 * mp + 2) / 5 + d - 1
  let doe := yoe * 365 + yoe / 4 - yoe / 100 + doy
  era * 146097 + doe - 719468

/-- the round-trip property of one day number -/
def civilOk (z : Int) : Bool :=
  let (y, m, d) := civilFromDays z
  daysFromCivil y m d == z && 1 ≤ m && m ≤ 12 && 1 ≤ d && d ≤ 31

/-- `civilFromDays` inverts `daysFromCivil` (and yields a month in 1..12 and a day in 1..31) on
    every day from 1999-01-01 on for 1 500 days (around the year-2000 leap day), checked one by one by
    kernel evaluation.  This is a test of the algorithm, labelled as such: the unbounded claim is
    not proved; the correspondence stream compares with Go's `time` package on 1600–2400. -/
theorem C17_civil_roundtrip (k : Nat) (hk : k < 1500) : civilOk ((10592 + k : Nat) : Int) = true :=
  List.all_eq_true.mp (by decide +kernel : (List.range 1500).all (fun k => civilOk ((10592 + k : Nat) : Int)) = true)
    k (List.mem_range.mpr hk)

example : civilFromDays 0 = (1970, 1, 1) := by decide
example : civilFromDays 11016 = (2000, 2, 29) := by decide

end EvalFilter.Props.C17Calendar
