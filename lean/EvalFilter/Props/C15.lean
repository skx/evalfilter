/-
  C15 — Numbers, strings and booleans are values, not shared cells.

  The model has value semantics by construction; the theorems state what that means
  for `++`/`--`/compound assignment (they change the named variable and nothing
  else) and for literals (OpPush/OpConstant produce the same value whatever
  happened before).  That the Go code mutates no object that is reachable from two
  places is the tie: the regenerated table of in-place mutation sites equals the
  audited list (iteration offsets of a loop's private copy; Increase/Decrease, which
  OpInc/OpDec apply to a fresh copy), and the S-alias stream.
-/
import EvalFilter.Props.C06

namespace EvalFilter.Props.C15
open EvalFilter.VM EvalFilter.Props.C06

/-- updating the innermost binding of `name` leaves every other name's binding alone -/
theorem updateInnermost_other (ss ss' : List Scope) (name other : Str) (v : Value) (h : other ≠ name)
    (hu : Env.updateInnermost ss name v = some ss') :
    ss'.reverse.findSome? (fun s => s.lookup other) = ss.reverse.findSome? (fun s => s.lookup other) := by
  induction ss generalizing ss' with
  | nil => simp [Env.updateInnermost] at hu
  | cons s rest ih =>
    simp only [Env.updateInnermost] at hu
    split at hu
    · rename_i rest' hr
      cases hu
      simp only [List.reverse_cons, List.findSome?_append, ih rest' hr]
    · split at hu
      · cases hu
        simp only [List.reverse_cons, List.findSome?_append, List.findSome?_cons, List.findSome?_nil,
          lookup_setAssoc_other _ _ _ _ h]
      · cases hu

/-- An assignment (and therefore `x++`, `x--`, `x += e` …, which all end in an assignment to x)
    changes the variable x and nothing else: every other name reads as before. -/
theorem C15_set_only_target (e : Env) (name other : Str) (v : Value) (h : other ≠ name) :
    (e.set name v).get other = e.get other := by
  unfold Env.set
  split
  · rename_i sc hu
    simp only [Env.get, Env.isLocal]
    rw [updateInnermost_other e.scopes sc name other v h hu]
  · simp only [Env.get, Env.isLocal, lookup_setAssoc_other _ _ _ _ h]

open EvalFilter.Exec in
/-- **A compound assignment `x op= e` changes `x` and nothing else** (end to end: this is the outcome the
    compiled code produces, by `C02_program_correct`): if it completes, the environment is the old one with
    `x` set to a value; every other variable reads as before. -/
theorem C15_compound_assignment (M : Machine) (F : FnTable) (obj : HostVal) (depth f : Nat) (op : Str) (name : Str) (r : Expr)
    (env env' : Env) (out out' : Str)
    (h : execE M F obj depth (f + 1) (.infix op (.ident name) r) env out = .normal env' out') :
    (∃ v, env' = env.set name v) ∧ ∀ other, other ≠ name → env'.get other = env.get other := by
  simp only [execE] at h
  split at h
  · cases h
  · split at h
    · simp only [failE] at h; split at h <;> cases h
    · split at h
      · simp only [failE] at h; split at h <;> cases h
      · split at h <;> cases h
        exact ⟨⟨_, rfl⟩, fun other ho => C15_set_only_target env name other _ ho⟩

open EvalFilter.Exec in
/-- **`x++` / `x--` change `x` and nothing else** (end to end: `C02_incdec_semantics` is what the compiled
    code does): the new environment is the old one with `x` set to a fresh value one more or less; every
    other variable reads as before -/
theorem C15_incdec_only_target (obj : HostVal) (env env' : Env) (name : Str) (inc : Bool)
    (h : incDecEnv obj env name inc = .ok env') :
    (∃ v, env' = env.set name v ∧
      ((∃ i, lookup obj env name = .ok (.int i) ∧ v = .int (if inc then i + 1 else i - 1)) ∨
       (∃ x, lookup obj env name = .ok (.float x) ∧ v = .float (if inc then x + 1 else x - 1)))) ∧
    ∀ other, other ≠ name → env'.get other = env.get other := by
  unfold incDecEnv at h
  cases hl : lookup obj env name with
  | error e => simp [hl] at h
  | ok v =>
    cases v <;> simp only [hl, Except.ok.injEq, reduceCtorEq] at h
    case int i =>
      subst h
      exact ⟨⟨_, rfl, Or.inl ⟨i, rfl, rfl⟩⟩, fun other ho => C15_set_only_target env name other _ ho⟩
    case float x =>
      subst h
      exact ⟨⟨_, rfl, Or.inr ⟨x, rfl, rfl⟩⟩, fun other ho => C15_set_only_target env name other _ ho⟩

/-- `x++` on an integer variable: the new state is the old one with x := x + 1 (a fresh value), the
    looked-up value is dropped from the stack; nothing else changes. -/
theorem C15_inc_step (M : Machine) (obj : HostVal) (codeLen : Nat) (runBody : Bytes → RunSt → Res × RunSt)
    (arg next : Nat) (top : Value) (rest : List Value) (st : RunSt) (c : Value) (i : Int64)
    (hc : M.consts[arg]? = some c) (hv : lookup obj st.env c.inspect = .ok (.int i)) :
    step M obj codeLen runBody Op.inc.toNat arg next (top :: rest) st =
      .cont next rest { st with env := st.env.set c.inspect (.int (i + 1)) } := by
  refine (Exec.step_incDec true top hc).trans ?_
  rw [Exec.incDecEnv, hv]; rfl

theorem C15_dec_step_float (M : Machine) (obj : HostVal) (codeLen : Nat) (runBody : Bytes → RunSt → Res × RunSt)
    (arg next : Nat) (top : Value) (rest : List Value) (st : RunSt) (c : Value) (f : Float)
    (hc : M.consts[arg]? = some c) (hv : lookup obj st.env c.inspect = .ok (.float f)) :
    step M obj codeLen runBody Op.dec.toNat arg next (top :: rest) st =
      .cont next rest { st with env := st.env.set c.inspect (.float (f - 1)) } := by
  refine (Exec.step_incDec false top hc).trans ?_
  rw [Exec.incDecEnv, hv]; rfl

/-- A literal denotes the same value every time it is evaluated, in every iteration and every run:
    OpConstant pushes the constant whatever the state, and leaves the state (and the pool, which a
    step cannot even mention) alone. -/
theorem C15_literal_stable (M : Machine) (obj : HostVal) (codeLen : Nat) (runBody : Bytes → RunSt → Res × RunSt)
    (arg next : Nat) (stack : List Value) (st : RunSt) (c : Value) (hc : M.consts[arg]? = some c) :
    step M obj codeLen runBody Op.constant.toNat arg next stack st = .cont next (c :: stack) st :=
  Exec.step_constant hc

theorem C15_inline_literal_stable (M : Machine) (obj : HostVal) (codeLen : Nat)
    (runBody : Bytes → RunSt → Res × RunSt) (arg next : Nat) (stack : List Value) (st : RunSt) :
    step M obj codeLen runBody Op.push.toNat arg next stack st = .cont next (.int (Int64.ofNat arg) :: stack) st :=
  rfl

/-- the only in-place writes to objects in the library are the audited ones -/
theorem C15_mutation_sites_audited : Generated.mutationSites = Spec.Tables.mutationSites :=
  Props.Tables.gen_mutationSites

example : (({ globals := [("a".toList, .int 1), ("b".toList, .int 1)] } : Env).set "b".toList (.int 2)).get "a".toList
    = some (.int 1) := by
  rw [C15_set_only_target _ _ _ _ (by decide)]; rfl

end EvalFilter.Props.C15
