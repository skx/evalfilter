/-
  C02 — Control flow runs exactly the statements the language selects, in order.

  What is proved here, for ALL programs / values / states:
    * LABELS.  For every `if`, `if/else`, `while`, `foreach` and ternary, whatever the
      sub-trees are and wherever the code is placed: the conditional jump lands exactly on the first
      instruction after the skipped block, the jump at the end of a taken block lands exactly on the
      join placeholder, and a loop's back jump lands exactly on the first instruction of the loop test
      (consequences of `compileExpr_size`: emitted code has exactly the computed size; and of
      `compileExpr_closed`: every jump of every tree lands on an instruction start);
    * OPCODES.  What the VM does for the control instructions: OpJumpIfFalse falls through exactly when
      the popped value is truthy (C05's truth) and otherwise continues at its operand; OpJump continues at
      its operand; OpReturn ends the run at once with the value on top; running past the last instruction
      yields null; OpCase is true exactly for same type and same text, else the regexp match for a
      regexp case, else false; OpPlaceholder does nothing;
    * ITERATION.  `foreach` state lives in an `iterating v off` value: one OpIterationNext on offset
      `off < n` binds element `off` (and its index/key), pushes true and leaves `off+1`; on `off = n`
      it closes the loop scope, drops the iterator and pushes false.  Arrays yield their elements in
      order with indexes 0,1,…; strings their characters; hashes their entries in the fixed key
      order; so a loop visits every element exactly once, in order.
    * END TO END.  For scripts of the statement forms of `Proofs/StmtCorrect.lean` over value-producing
      expressions, compiled without the optimizer: the run ends with exactly the outcome of the big-step
      semantics `execSs` (`C02_program_correct`, `C02_program_with_functions_correct`); the `*_semantics`
      theorems spell out what that semantics says for each construct.
  Outside that fragment (and for the optimised program's constructs x nestings x branch outcomes x iterable
  shapes) the correspondence streams S-ctl-templates / S-ctl compare against the model, host-call traces
  and variables included.
-/
import EvalFilter.Proofs.FnDefs2

namespace EvalFilter.Props.C02
open EvalFilter.VM EvalFilter.Compiler

/-- `if (c) { cons }`: the conditional jump lands on the join placeholder right after the block -/
theorem C02_if_labels (c : Expr) (cons : List Stmt) (base : Nat) (st : CState) (r : List Instr × CState)
    (h : compileExpr (.ifE c cons none) base st = .ok r) :
    ∃ cc ca, r.1 = cc ++ [⟨.jumpIfFalse, base + codeSize (cc ++ [⟨.jumpIfFalse, 0⟩] ++ ca)⟩] ++ ca ++ [⟨.placeholder, 0⟩] := by
  simp only [compileExpr, bind_ok_eq, pure, Except.pure] at h
  obtain ⟨⟨cc, st1⟩, h1, ⟨ca, st2⟩, h2, h3⟩ := h
  cases h3
  exact ⟨cc, ca, by
    simp only [codeSize_append, codeSize_cons, codeSize_nil, compileExpr_size h1, compileStmts_size h2, Instr.size,
      Op.length, Nat.add_zero, Nat.add_assoc]⟩

/-- `if (c) { cons } else { alt }`: the conditional jump lands on the first instruction of the else
    block, the jump that ends the consequence lands on the join placeholder after the else block -/
theorem C02_if_else_labels (c : Expr) (cons alt : List Stmt) (base : Nat) (st : CState) (r : List Instr × CState)
    (h : compileExpr (.ifE c cons (some alt)) base st = .ok r) :
    ∃ cc ca cb, r.1 = cc ++ [⟨.jumpIfFalse, base + codeSize (cc ++ [⟨.jumpIfFalse, 0⟩] ++ ca ++ [⟨.jump, 0⟩])⟩] ++ ca ++
        [⟨.jump, base + codeSize (cc ++ [⟨.jumpIfFalse, 0⟩] ++ ca ++ [⟨.jump, 0⟩] ++ cb)⟩] ++ cb ++ [⟨.placeholder, 0⟩] := by
  simp only [compileExpr, bind_ok_eq, pure, Except.pure] at h
  obtain ⟨⟨cc, st1⟩, h1, ⟨ca, st2⟩, h2, ⟨cb, st3⟩, h4, h5⟩ := h
  cases h5
  exact ⟨cc, ca, cb, by
    simp only [codeSize_append, codeSize_cons, codeSize_nil, compileExpr_size h1, compileStmts_size h2,
      compileStmts_size h4, Instr.size, Op.length, Nat.add_zero, Nat.add_assoc]⟩

/-- `while (c) { body }`: the exit jump lands on the placeholder after the back jump; the back jump
    lands on the first instruction of the condition -/
theorem C02_while_labels (c : Expr) (body : List Stmt) (base : Nat) (st : CState) (r : List Instr × CState)
    (h : compileExpr (.whileE c body) base st = .ok r) :
    ∃ cc cb, r.1 = cc ++ [⟨.jumpIfFalse, base + codeSize (cc ++ [⟨.jumpIfFalse, 0⟩] ++ cb ++ [⟨.jump, 0⟩])⟩] ++ cb ++
        [⟨.jump, base⟩, ⟨.placeholder, 0⟩] := by
  simp only [compileExpr, bind_ok_eq, pure, Except.pure] at h
  obtain ⟨⟨cc, st1⟩, h1, ⟨cb, st2⟩, h2, h3⟩ := h
  cases h3
  exact ⟨cc, cb, by
    simp only [codeSize_append, codeSize_cons, codeSize_nil, compileExpr_size h1, compileStmts_size h2, Instr.size,
      Op.length, Nat.add_zero, Nat.add_assoc]⟩

/-- `foreach idx, x in v { body }`: the iterable is evaluated once, OpIterationReset opens the loop; the
    back jump lands on the two name constants that precede OpIterationNext; the exit jump lands on the
    placeholder after the back jump -/
theorem C02_foreach_labels (idx x : Str) (v : Expr) (body : List Stmt) (base : Nat) (st : CState)
    (r : List Instr × CState) (h : compileExpr (.foreachE idx x v body) base st = .ok r) :
    ∃ cv ki kx cb, ki.op = .constant ∧ kx.op = .constant ∧
      r.1 = cv ++ [⟨.iterationReset, 0⟩, ki, kx, ⟨.iterationNext, 0⟩,
              ⟨.jumpIfFalse, base + codeSize (cv ++ [⟨.iterationReset, 0⟩, ki, kx, ⟨.iterationNext, 0⟩, ⟨.jumpIfFalse, 0⟩] ++ cb ++ [⟨.jump, 0⟩])⟩]
            ++ cb ++ [⟨.jump, base + codeSize (cv ++ [⟨.iterationReset, 0⟩])⟩, ⟨.placeholder, 0⟩] := by
  simp only [compileExpr, bind_ok_eq, pure, Except.pure] at h
  obtain ⟨⟨cv, st1⟩, h1, ⟨cb, st2⟩, h2, h3⟩ := h
  cases h3
  exact ⟨cv, (withConst st1 .constant (.str idx)).1, (withConst (withConst st1 .constant (.str idx)).2 .constant (.str x)).1, cb,
    rfl, rfl, by
    simp only [codeSize_append, codeSize_cons, codeSize_nil, compileExpr_size h1, compileStmts_size h2, Instr.size,
      Op.length, withConst_op, Nat.add_zero, Nat.add_assoc]⟩

/-- `c ? t : f`: the conditional jump lands on the first instruction of `f`, the jump after `t` on the
    join placeholder -/
theorem C02_ternary_labels (c t f : Expr) (base : Nat) (st : CState) (r : List Instr × CState)
    (h : compileExpr (.ternary c t f) base st = .ok r) :
    ∃ cc ct cf, r.1 = cc ++ [⟨.jumpIfFalse, base + codeSize (cc ++ [⟨.jumpIfFalse, 0⟩] ++ ct ++ [⟨.jump, 0⟩])⟩] ++ ct ++
        [⟨.jump, base + codeSize (cc ++ [⟨.jumpIfFalse, 0⟩] ++ ct ++ [⟨.jump, 0⟩] ++ cf)⟩] ++ cf ++ [⟨.placeholder, 0⟩] := by
  simp only [compileExpr, bind_ok_eq, pure, Except.pure] at h
  obtain ⟨⟨cc, st1⟩, h1, ⟨ct, st2⟩, h2, ⟨cf, st3⟩, h3, h4⟩ := h
  cases h4
  exact ⟨cc, ct, cf, by
    simp only [codeSize_append, codeSize_cons, codeSize_nil, compileExpr_size h1, compileExpr_size h2, compileExpr_size
      h3, Instr.size, Op.length, Nat.add_zero, Nat.add_assoc]⟩

/-- every jump of every compiled tree lands on an instruction start of that tree's code -/
theorem C02_all_jumps_land_on_instructions (e : Expr) (base : Nat) (st : CState) (r : List Instr × CState)
    (h : compileExpr e base st = .ok r) : Closed base r.1 := compileExpr_closed e base st r h

variable (M : Machine) (obj : HostVal) (codeLen : Nat) (runBody : Bytes → RunSt → Res × RunSt)

/-- OpJumpIfFalse: pops the condition; truthy → next instruction, otherwise → the operand -/
theorem C02_jumpIfFalse (arg next : Nat) (c : Value) (rest : List Value) (st : RunSt) (harg : arg < codeLen) :
    step M obj codeLen runBody Op.jumpIfFalse.toNat arg next (c :: rest) st =
      .cont (if c.truthy then next else arg) rest st :=
  Exec.step_jif harg

/-- OpJump: continues at its operand, stack untouched -/
theorem C02_jump (arg next : Nat) (stack : List Value) (st : RunSt) (harg : arg < codeLen) :
    step M obj codeLen runBody Op.jump.toNat arg next stack st = .cont arg stack st :=
  Exec.step_jump harg

/-- OpReturn: the run ends at once with the value on top of the stack -/
theorem C02_return (arg next : Nat) (v : Value) (rest : List Value) (st : RunSt) :
    step M obj codeLen runBody Op.return.toNat arg next (v :: rest) st = .halt (.ok v) st :=
  rfl

/-- join placeholders do nothing -/
theorem C02_placeholder (arg next : Nat) (stack : List Value) (st : RunSt) :
    step M obj codeLen runBody Op.placeholder.toNat arg next stack st = .cont next stack st :=
  rfl

/-- running past the last instruction yields null -/
theorem C02_run_off_the_end (code : Bytes) (fuel : Nat) (ip : Nat) (stack : List Value) (st : RunSt)
    (h : ip ≥ code.length) : loop M obj code (fuel + 1) ip stack st = (.ok .null, st) := by
  simp [loop, h]

/-- OpCase: true for same type and same text; else the regexp match if the case is a regexp; else false -/
theorem C02_case (arg next : Nat) (caseVal val : Value) (rest : List Value) (st : RunSt) :
    step M obj codeLen runBody Op.case.toNat arg next (caseVal :: val :: rest) st =
      (if sameTypeAndText val caseVal then .cont next (.bool true :: rest) st
       else if caseVal.isType .REGEXP then
         (match callMatch M val caseVal with
          | .error e => .halt (.error e) st
          | .ok (v, o) => .cont next (v :: rest) { st with out := st.out ++ o })
       else .cont next (.bool false :: rest) st) :=
  rfl

/-- the elements a foreach over `v` visits, with their index or key, in order -/
def visits : Value → List (Value × Value)
  | .array els => (List.range els.length).map (fun k => (els.getD k .null, .int (Int64.ofNat k)))
  | .str s => (List.range s.length).map (fun k => (.str [s.getD k ' '], .int (Int64.ofNat k)))
  | .hash ps => (HashMapModel.entries ps).map (fun p => (p.val, p.key))
  | _ => []

/-- `Next()` at offset `k` is the k-th visit, and there is none at the end: every element exactly once, in order -/
theorem C02_iterNext_enumerates (v : Value) (k : Nat) : iterNext v k = (visits v)[k]? := by
  cases v <;> simp only [iterNext, visits]
  case array els => by_cases h : k < els.length <;> simp [h]
  case str s => by_cases h : k < s.length <;> simp [h]
  case hash ps => by_cases h : k < (HashMapModel.entries ps).length <;> simp [h]
  all_goals simp

/-- one OpIterationNext with elements left: binds the loop variable (and the index variable when one
    was given) in the loop's scope, advances the iterator by one, pushes true -/
theorem C02_iteration_step (arg next : Nat) (varName idxName v : Value) (off : Nat) (rest : List Value) (st : RunSt)
    (x idx : Value) (h : iterNext v off = some (x, idx)) :
    step M obj codeLen runBody Op.iterationNext.toNat arg next (varName :: idxName :: .iterating v off :: rest) st =
      .cont next (.bool true :: .iterating v (off + 1) :: rest)
        { st with env := (if idxName.inspect.isEmpty then st.env.declare varName.inspect x
                          else (st.env.declare varName.inspect x).declare idxName.inspect idx) } := by
  show (match iterNext v off with | some (x, idx) => _ | none => _) = _
  rw [h]

/-- one OpIterationNext at the end: the iterator is dropped, the loop scope closed, false pushed -/
theorem C02_iteration_end (arg next : Nat) (varName idxName v : Value) (off : Nat) (rest : List Value) (st : RunSt)
    (env' : Env) (h : iterNext v off = none) (hs : st.env.removeScope = some env') :
    step M obj codeLen runBody Op.iterationNext.toNat arg next (varName :: idxName :: .iterating v off :: rest) st =
      .cont next (.bool false :: rest) { st with env := env' } := by
  show (match iterNext v off with | some (x, idx) => _ | none => _) = _
  rw [h]
  show (match st.env.removeScope with | none => _ | some env => _) = _
  rw [hs]

/-- OpIterationReset on an array: opens the loop's scope and starts the iteration at offset 0 -/
theorem C02_iteration_reset (arg next : Nat) (els : List Value) (rest : List Value) (st : RunSt) :
    step M obj codeLen runBody Op.iterationReset.toNat arg next (.array els :: rest) st =
      .cont next (.iterating (.array els) 0 :: rest) { st with env := st.env.addScope } :=
  rfl

open EvalFilter.Exec in
/-- what the language defines for `c ? t : f`: the condition is evaluated, then exactly one arm, chosen
    by the truth of the condition's value; an error in the condition or in the chosen arm is the result -/
theorem C02_ternary_semantics (M : Machine) (obj : HostVal) (env : Env) (c t f : Expr) (out : Str) :
    evalE M obj env (.ternary c t f) out =
      (match evalE M obj env c out with
       | (.error e, o) => (.error e, o)
       | (.ok cv, o) => if cv.truthy then evalE M obj env t o else evalE M obj env f o) :=
  rfl

open EvalFilter.Exec in
/-- … and the compiled code does exactly that, for all value-producing `c`, `t`, `f` of any size,
    wherever the code is placed: the other arm's code is never entered -/
theorem C02_ternary_correct (c t f : Expr) (base : Nat) (cst : CState) (r : List Instr × CState)
    (hp : pureE (.ternary c t f) = true) (hc : compileExpr (.ternary c t f) base cst = .ok r)
    (M : Machine) (obj : HostVal) (code : Bytes) (ctx : Ctx M code) (hat : CodeAt code base r.1)
    (hpool : ∃ ex, M.consts = r.2.consts ++ ex) : Correct M obj code (.ternary c t f) base :=
  Correct_iff.2 (expr_runs _ hp hc ctx hat hpool obj)

open EvalFilter.Exec in
/-- **Assignments, compound assignments, if / else-if / else, while, foreach, switch and return run exactly as the language defines.**  For every
    script built from these over value-producing expressions (any size and nesting), compiled without the
    optimizer, for every host object, environment and host-function table: the run ends with exactly the
    outcome of the big-step semantics `execSs` - the statements the language selects, in order, a loop
    body once per turn while its condition is truthy; `return` ends the script at once with its value;
    running off the end yields null; the first error ends the run - with the result, the output and the
    variables the semantics prescribes.  `F` is any function table the machine's agrees with (`FnOK`); the next
    theorem takes the script's own. -/
theorem C02_program_correct (F : FnTable) (prog : Program) (hp : pureSs prog = true) (hne : 1 ≤ Stmt.sizes prog) (c : Compiled)
    (hc : compileProgram prog = .ok c) (fns : List (Str × FnImpl)) (obj : HostVal) (env : Env) (out : Str)
    (polls depth f : Nat)
    (hF : FnOK (Api.newMachine c false fns (fun _ => false)) F obj)
    (hnd : execSs (Api.newMachine c false fns (fun _ => false)) F obj depth f prog env out ≠ .diverged) :
    ∃ n k, ∀ fuel, ∃ st',
      run (Api.newMachine c false fns (fun _ => false)) obj (fuel + n) ⟨env, out, polls, depth⟩ = st' ∧
      (match programResult (polls + k) depth (execSs (Api.newMachine c false fns (fun _ => false)) F obj depth f prog env out) with
       | some (r, s) => st'.1 = r ∧ st'.2.out = s.out ∧ st'.2.env.globals = s.env.globals ∧ st'.2.polls = s.polls
       | none => True) :=
  program_correct F prog hp hne c hc fns obj env out polls depth f hF hnd

open EvalFilter.Exec in
/-- **… scripts that define and call their own functions included, with no hypothesis about the machine.**
    For every script of the statement forms above, its function definitions wherever they stand - at top
    level, inside blocks, inside other functions (bodies of any size, calling each other and themselves, before
    or after their definition) - and whose calls of them stand in the
    positions `x = f(a, …);`, `f(a, …);` and `return f(a, …);`: the run of the compiled program ends with
    exactly the outcome of the big-step semantics over the script's own function table `allDefs prog`. -/
theorem C02_program_with_functions_correct (prog : Program) (hp : pureSs prog = true)
    (hne : 1 ≤ Stmt.sizes prog) (c : Compiled)
    (hc : compileProgram prog = .ok c) (fns : List (Str × FnImpl)) (obj : HostVal) (env : Env) (out : Str)
    (polls depth f : Nat)
    (hnd : execSs (Api.newMachine c false fns (fun _ => false)) (allDefs prog) obj depth f prog env out ≠ .diverged) :
    ∃ n k, ∀ fuel, ∃ st',
      run (Api.newMachine c false fns (fun _ => false)) obj (fuel + n) ⟨env, out, polls, depth⟩ = st' ∧
      (match programResult (polls + k) depth (execSs (Api.newMachine c false fns (fun _ => false)) (allDefs prog) obj depth f prog env out) with
       | some (r, s) => st'.1 = r ∧ st'.2.out = s.out ∧ st'.2.env.globals = s.env.globals ∧ st'.2.polls = s.polls
       | none => True) :=
  program_correct (allDefs prog) prog hp hne c hc fns obj env out polls depth f
    (fnOK_of_compile_all prog hp c hc fns obj) hnd

open EvalFilter.Exec in
/-- what the semantics says, spelled out for a block: statements run one after the other while each
    falls through; anything else (return, error) ends the block with that outcome -/
theorem C02_block_semantics (M : Machine) (F : FnTable) (obj : HostVal) (depth f : Nat) (s : Stmt) (ss : List Stmt) (env : Env) (out : Str)
    (h : ¬ IsPair s ss) :
    execSs M F obj depth (f + 1) (s :: ss) env out =
      (match execS M F obj depth f s env out with
       | .normal env' o' => execSs M F obj depth f ss env' o'
       | other => other) :=
  execSs_other M F obj depth f s ss env out h

open EvalFilter.Exec in
/-- … where `x++;` / `x--;` - which the parser reads as TWO statements, the operand and the postfix operator
    with the text before it as its variable - are one step: the operand is evaluated (its value is dropped),
    then the named variable, if it holds an integer or a float, is replaced by a fresh value one more or
    less; anything else is an error -/
theorem C02_incdec_semantics (M : Machine) (F : FnTable) (obj : HostVal) (depth f : Nat) (e : Expr) (name op : Str) (ss : List Stmt)
    (env : Env) (out : Str) :
    execSs M F obj depth (f + 1) (.expr e :: .expr (.postfix name op) :: ss) env out =
      (match evalE M obj env e out with
       | (.error x, o) => failE x env o
       | (.ok _, o) =>
         match incDecEnv obj env name (op == ['+', '+']) with
         | .error x => .failed x env o
         | .ok env' => execSs M F obj depth f ss env' o) :=
  rfl

open EvalFilter.Exec in
/-- … and for a loop: the condition is evaluated; if truthy the body runs once and the loop starts
    again with the variables the body left, otherwise the loop is over -/
theorem C02_while_semantics (M : Machine) (F : FnTable) (obj : HostVal) (depth f : Nat) (c : Expr) (body : List Stmt) (env : Env) (out : Str) :
    execE M F obj depth (f + 1) (.whileE c body) env out =
      (match evalE M obj env c out with
       | (.error e, o) => failE e env o
       | (.ok cv, o) =>
         if cv.truthy then
           match execSs M F obj depth f body env o with
           | .normal env' o' => execE M F obj depth f (.whileE c body) env' o'
           | other => other
         else .normal env o) :=
  rfl

open EvalFilter.Exec in
/-- … and for `foreach`: the iterable is evaluated once and a scope is opened; then, turn after turn, the
    next element (in the order `C02_iterNext_enumerates` fixes: positions of an array, characters of a
    string, the sorted entries of a hash) is bound to the loop variable(s) and the body runs once; when
    the elements are used up the scope is closed and the loop is over; `return` or an error in the body
    ends the loop at once -/
theorem C02_foreach_semantics (M : Machine) (F : FnTable) (obj : HostVal) (depth f : Nat) (idx x : Str) (body : List Stmt)
    (it : Value) (k : Nat) (env : Env) (out : Str) :
    execIter M F obj depth (f + 1) idx x body it k env out =
      (match iterNext it k with
       | some (val, i) =>
         match execSs M F obj depth f body (if idx.isEmpty then env.declare x val else (env.declare x val).declare idx i) out with
         | .normal env' o' => execIter M F obj depth f idx x body it (k + 1) env' o'
         | other => other
       | none =>
         match env.removeScope with
         | none => .failed (.error "removeScope") env out
         | some e => .normal e out) :=
  rfl

open EvalFilter.Exec in
theorem C02_foreach_start (M : Machine) (F : FnTable) (obj : HostVal) (depth f : Nat) (idx x : Str) (v : Expr) (body : List Stmt)
    (env : Env) (out : Str) :
    execE M F obj depth (f + 1) (.foreachE idx x v body) env out =
      (match evalE M obj env v out with
       | (.error e, o) => failE e env o
       | (.ok iv, o) =>
         match resetVal iv with
         | .ok it => execIter M F obj depth f idx x body it 0 env.addScope o
         | .error e => .failed e env.addScope o) :=
  rfl

open EvalFilter.Exec in
/-- … and for `switch`: the non-default cases are tried in source order, the expressions of a case left to
    right; for each test the switch value is evaluated anew, then the case expression, and OpCase decides
    (same type and text; else, for a regexp case, the match; else no); the FIRST test that succeeds runs
    its block and the switch is over - exactly one arm runs; when none succeeds the default block runs -/
theorem C02_switch_semantics (M : Machine) (F : FnTable) (obj : HostVal) (depth f : Nat) (v : Expr) (cs : List Case) (env : Env) (out : Str) :
    execE M F obj depth (f + 1) (.switchE v cs) env out =
      (match execArms M F obj depth f v cs env out with
       | .done o => o
       | .next env' out' => execDefaults M F obj depth f cs env' out') :=
  rfl

open EvalFilter.Exec in
theorem C02_switch_test (M : Machine) (F : FnTable) (obj : HostVal) (depth f : Nat) (v e : Expr) (es : List Expr) (b : List Stmt) (env : Env) (out : Str) :
    execArm M F obj depth (f + 1) v (e :: es) b env out =
      (match evalE M obj env v out with
       | (.error x, o) => .done (failE x env o)
       | (.ok vv, o1) =>
         match evalE M obj env e o1 with
         | (.error x, o) => .done (failE x env o)
         | (.ok ev, o2) =>
           match caseOp M vv ev with
           | .error x => .done (.failed x env o2)
           | .ok (t, o3) =>
             if t.truthy then .done (execSs M F obj depth f b env (o2 ++ o3))
             else execArm M F obj depth f v es b env (o2 ++ o3)) :=
  rfl

open EvalFilter.Exec in
theorem C02_case_decision (M : Machine) (val caseVal : Value) :
    caseOp M val caseVal =
      (if sameTypeAndText val caseVal then .ok (.bool true, [])
       else if caseVal.isType .REGEXP then callMatch M val caseVal
       else .ok (.bool false, [])) := rfl

/-! the hypotheses of `C02_program_correct` are met by real scripts: `s = 0; foreach i, x in [5, 7] { s = s + i * x; } return s;` -/
section nonvacuous
open EvalFilter.Exec
private def progF : Program :=
  [ .expr (.assign ['s'] (.intLit ['0'] 0)),
    .expr (.foreachE ['i'] ['x'] (.arrayLit [.intLit ['5'] 5, .intLit ['7'] 7])
      [ .expr (.assign ['s'] (.infix ['+'] (.ident ['s']) (.infix ['*'] (.ident ['i']) (.ident ['x'])))) ]),
    .ret (.ident ['s']) ]
private def compF : Compiled := match compileProgram progF with | .ok c => c | .error _ => ⟨[], [], []⟩
example : pureSs progF = true := by decide
example : compileProgram progF = .ok compF := by rfl
example : ∃ e o, execSs (Api.newMachine compF false [] (fun _ => false)) [] .nilIface 0 10 progF {} [] = .returned (.int 7) e o :=
  ⟨_, _, by rfl⟩
/-- a script that defines no function meets the function-table hypothesis with the empty table -/
example : FnOK (Api.newMachine compF false [] (fun _ => false)) [] .nilIface :=
  ⟨fun _ _ => rfl, fun _ _ h => by simp [FnTable.find] at h⟩
/-- `k = 0; while (k < 3) { k = k + 1; } if (k == 3) { return 1; } else { return 2; }` -/
private def progW : Program :=
  [ .expr (.assign ['k'] (.intLit ['0'] 0)),
    .expr (.whileE (.infix ['<'] (.ident ['k']) (.intLit ['3'] 3)) [ .expr (.assign ['k'] (.infix ['+'] (.ident ['k']) (.intLit ['1'] 1))) ]),
    .expr (.ifE (.infix ['=', '='] (.ident ['k']) (.intLit ['3'] 3)) [ .ret (.intLit ['1'] 1) ] (some [ .ret (.intLit ['2'] 2) ])) ]
private def compW : Compiled := match compileProgram progW with | .ok c => c | .error _ => ⟨[], [], []⟩
example : pureSs progW = true := by decide
example : compileProgram progW = .ok compW := by rfl
example : ∃ e o, execSs (Api.newMachine compW false [] (fun _ => false)) [] .nilIface 0 12 progW {} [] = .returned (.int 1) e o :=
  ⟨_, _, by rfl⟩
/-- `k = 2; switch (k + 1) { case 1, 2 { return "a"; } case 3 { r = "b"; } default { r = "c"; } } return r;` -/
private def progS : Program :=
  [ .expr (.assign ['k'] (.intLit ['2'] 2)),
    .expr (.switchE (.infix ['+'] (.ident ['k']) (.intLit ['1'] 1))
      [ .mk false [.intLit ['1'] 1, .intLit ['2'] 2] [ .ret (.strLit ['a']) ],
        .mk false [.intLit ['3'] 3] [ .expr (.assign ['r'] (.strLit ['b'])) ],
        .mk true [] [ .expr (.assign ['r'] (.strLit ['c'])) ] ]),
    .ret (.ident ['r']) ]
private def compS : Compiled := match compileProgram progS with | .ok c => c | .error _ => ⟨[], [], []⟩
example : pureSs progS = true := by decide
example : compileProgram progS = .ok compS := by rfl
example : ∃ e o, execSs (Api.newMachine compS false [] (fun _ => false)) [] .nilIface 0 12 progS {} [] = .returned (.str ['b']) e o :=
  ⟨_, _, by rfl⟩
/-- a recursive function, called before its definition:
    `x = fact(4); function fact(n) { if (n < 2) { return 1; } r = fact(n - 1); return n * r; } return x;` -/
private def progR : Program :=
  [ .expr (.assign ['x'] (.call (.ident ['f','a','c','t']) [.intLit ['4'] 4])),
    .expr (.funcDef ['f','a','c','t'] [['n']]
      [ .expr (.ifE (.infix ['<'] (.ident ['n']) (.intLit ['2'] 2)) [ .ret (.intLit ['1'] 1) ] none),
        .expr (.assign ['r'] (.call (.ident ['f','a','c','t']) [.infix ['-'] (.ident ['n']) (.intLit ['1'] 1)])),
        .ret (.infix ['*'] (.ident ['n']) (.ident ['r'])) ]),
    .ret (.ident ['x']) ]
private def compR : Compiled := match compileProgram progR with | .ok c => c | .error _ => ⟨[], [], []⟩
example : pureSs progR = true := by decide
example : compileProgram progR = .ok compR := by rfl
/-- … and it yields 4! = 24 (evaluated by the kernel) -/
example : (match execSs (Api.newMachine compR false [] (fun _ => false)) (allDefs progR) .nilIface 0 40 progR {} [] with
    | .returned (.int v) _ _ => v == 24
    | _ => false) = true := by decide +kernel
/-- built-in functions called inside expressions and conditions:
    `x = len("abc") + 1; if (x > len("abc")) { return x * 2; } return 0;` yields 8 -/
private def progB : Program :=
  [ .expr (.assign ['x'] (.infix ['+'] (.call (.ident ['l','e','n']) [.strLit ['a','b','c']]) (.intLit ['1'] 1))),
    .expr (.ifE (.infix ['>'] (.ident ['x']) (.call (.ident ['l','e','n']) [.strLit ['a','b','c']]))
      [ .ret (.infix ['*'] (.ident ['x']) (.intLit ['2'] 2)) ] none),
    .ret (.intLit ['0'] 0) ]
private def compB : Compiled := match compileProgram progB with | .ok c => c | .error _ => ⟨[], [], []⟩
example : pureSs progB = true := by decide
example : compileProgram progB = .ok compB := by rfl
example : (match execSs (Api.newMachine compB false Api.defaultFns (fun _ => false)) (allDefs progB) .nilIface 0 20 progB {} [] with
    | .returned (.int v) _ _ => v == 8
    | _ => false) = true := by decide +kernel
/-- the README's loop: `i = 0; sum = 0; while (i < 5) { sum += i; i++; } return sum;` yields 10 -/
private def progI : Program :=
  [ .expr (.assign ['i'] (.intLit ['0'] 0)),
    .expr (.assign ['s','u','m'] (.intLit ['0'] 0)),
    .expr (.whileE (.infix ['<'] (.ident ['i']) (.intLit ['5'] 5))
      [ .expr (.infix ['+','='] (.ident ['s','u','m']) (.ident ['i'])),
        .expr (.ident ['i']), .expr (.postfix ['i'] ['+','+']) ]),
    .ret (.ident ['s','u','m']) ]
private def compI : Compiled := match compileProgram progI with | .ok c => c | .error _ => ⟨[], [], []⟩
example : pureSs progI = true := by decide
example : compileProgram progI = .ok compI := by rfl
example : (match execSs (Api.newMachine compI false [] (fun _ => false)) (allDefs progI) .nilIface 0 40 progI {} [] with
    | .returned (.int v) _ _ => v == 10
    | _ => false) = true := by decide +kernel
end nonvacuous

end EvalFilter.Props.C02
