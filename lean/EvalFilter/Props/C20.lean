/-
  C20 — The embedding API and the command-line driver are faithful front ends.
-/
import EvalFilter.Props.C06
import EvalFilter.Props.C04

namespace EvalFilter.Props.C20
open EvalFilter.VM

/-- `Run` returns exactly the truth value of what `Execute` returns for the same object and fails
    exactly when it does (and leaves the evaluator in the same state) -/
theorem C20_run_is_truth_of_execute (M : Machine) (obj : HostVal) (st : RunSt) (fuel : Nat) :
    Api.runBool M obj st fuel = ((Api.execute M obj st fuel).1.map Value.truthy, (Api.execute M obj st fuel).2) := by
  simp [Api.runBool]

theorem C20_run_fails_iff_execute_fails (M : Machine) (obj : HostVal) (st : RunSt) (fuel : Nat) :
    (∃ e, (Api.runBool M obj st fuel).1 = .error e) ↔ (∃ e, (Api.execute M obj st fuel).1 = .error e) := by
  simp only [Api.runBool]
  cases h : (Api.execute M obj st fuel).1 <;> simp [Except.map]

/-- a variable given with SetVariable is what GetVariable returns (and what the script reads:
    `vm.lookup` consults the same `Env.get` first) -/
theorem C20_set_get_variable (env : Env) (name : Str) (v : Value) (h : env.scopes = []) :
    Api.getVariable (env.set name v) name = v := by
  have hl : env.isLocal name = none := by simp [Env.isLocal, h]
  have := (Props.C06.C06_set_unbound_is_global env name v hl)
  simp [Api.getVariable, Env.get, Env.isLocal, this.1, h, this.2]

/-- GetVariable of a name never assigned is null -/
theorem C20_get_unset_is_null (name : Str) : Api.getVariable {} name = .null := by
  simp [Api.getVariable, Env.get, Env.isLocal]

/-- the script reads the variable first, then the object's field -/
theorem C20_script_reads_variable (obj : HostVal) (env : Env) (name : Str) (v : Value)
    (hn : ¬ Str.hasPrefix name ['$']) (h : env.get name = some v) : VM.lookup obj env name = .ok v :=
  Props.C04.C04_variable_first obj env name v hn h

/-- A function given with AddFunction is called once per call with the script's arguments in
    order; its result is the call's value … -/
theorem C20_host_call_protocol (M : Machine) (obj : HostVal) (codeLen : Nat)
    (runBody : Bytes → RunSt → Res × RunSt) (next : Nat) (name : Str) (h : HostFn) (args below : List Value)
    (st : RunSt) (v : Value) (hl : lookupFn M name = some (.host h))
    (hv : (callImpl name (.host h) args).res = .val v) (hnn : v ≠ .nil) (hnv : v ≠ .void) :
    step M obj codeLen runBody Op.call.toNat args.length next (.str name :: (args.reverse ++ below)) st =
      .cont next (v :: below) { st with out := st.out ++ hostMarker name args } := by
  have hout : (callImpl name (.host h) args).out = hostMarker name args := by
    cases h <;> rfl
  rw [Exec.step_call_host hl]
  dsimp only [Value.inspect]
  rw [hv, hout]
  cases v <;> first | rfl | exact absurd rfl hnn | exact absurd rfl hnv

/-- … or nothing, for the void value -/
theorem C20_host_call_void (M : Machine) (obj : HostVal) (codeLen : Nat)
    (runBody : Bytes → RunSt → Res × RunSt) (next : Nat) (name : Str) (args below : List Value) (st : RunSt)
    (hl : lookupFn M name = some (.host .void)) :
    step M obj codeLen runBody Op.call.toNat args.length next (.str name :: (args.reverse ++ below)) st =
      .cont next below { st with out := st.out ++ hostMarker name args } := by
  rw [Exec.step_call_host hl]
  rfl

/-- NoOptimize disables optimisation and nothing else: both preparations accept the same scripts,
    produce the same tokens and constants, leave the variables alone, and the
    machines differ only in that one runs `optimize` of the other's byte code. -/
theorem C20_nooptimize_only (script : List Char) (env : Env) (fns : List (Str × FnImpl)) (done : Nat → Bool)
    (p : Api.Prepared) (env' : Env) (h : Api.prepare script false env fns done = .ok (p, env')) :
    ∃ p', Api.prepare script true env fns done = .ok (p', env') ∧ env' = env ∧
      p'.tokens = p.tokens ∧ p'.raw.consts = p.raw.consts ∧ p'.machine.consts = p.machine.consts ∧
      p'.machine.main = Optimizer.optimize p.machine.main ∧ p'.machine.fns = p.machine.fns ∧
      p'.machine.funcs = p.machine.funcs.map (fun f => ⟨f.name, f.params, Optimizer.optimize f.code⟩) := by
  unfold Api.prepare at h ⊢
  simp only [] at h ⊢
  split at h
  · cases h
  · split at h
    · cases h
    · cases h
      exact ⟨_, rfl, rfl, rfl, rfl, rfl, by simp [Api.newMachine], rfl,
        by simp [Api.newMachine, List.map_map, Function.comp_def]⟩

end EvalFilter.Props.C20
