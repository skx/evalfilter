/-
  C05 — One notion of truth decides conditions, logic operators and the filter verdict.

  `Value.truthy` is the single truth function of the model.  The theorems state
  the truth table of the property, that the conditional jump (the only
  instruction `if`, `while`, `for`, `foreach`-exit and the ternary compile to),
  `&&`, `||` and `Run`'s verdict all consult exactly that function, for values
  of every type, and the behaviour of `!`.  That no decision in the Go code is
  taken by comparing object *addresses* (which a value model cannot see) is the
  regenerated table `identityComparisons = []`; provenances (singletons vs
  freshly allocated objects from reflection, built-ins and host functions) are
  covered exhaustively by the stream S-truth.
-/
import EvalFilter.Model.Api
import EvalFilter.Generated.TypeFacts

namespace EvalFilter.Props.C05
open EvalFilter.VM

/-- the truth table of the property statement, written independently of `Value.truthy` -/
def Spec.truthy : Value → Bool
  | .bool b => b
  | .int i => decide (0 < i)
  | .float f => decide (0 < f)
  | .str s => s ≠ []
  | .regexp s => s ≠ []
  | .array els => els ≠ []
  | .hash ps => ps ≠ []
  | .iterating v _ => Spec.truthy v
  | .null => false
  | .void => false
  | .nil => false

theorem C05_truthy_table (v : Value) : v.truthy = Spec.truthy v := by
  match v with
  | .iterating v _ => simpa [Value.truthy, Spec.truthy] using C05_truthy_table v
  | .str s | .regexp s => cases s <;> rfl
  | .array els => cases els <;> rfl
  | .hash ps => cases ps <;> rfl
  | .int _ | .float _ => simp [Value.truthy, Spec.truthy]
  | .bool _ | .null | .void | .nil => rfl

/-- false, null, zero, negative numbers and empty containers are not truthy -/
theorem C05_falsy :
    (Value.bool false).truthy = false ∧ Value.null.truthy = false ∧ (Value.int 0).truthy = false ∧
    (Value.int (-5)).truthy = false ∧ (Value.str []).truthy = false ∧ (Value.array []).truthy = false ∧
    (Value.hash []).truthy = false ∧ (Value.regexp []).truthy = false := by
  simp [Value.truthy]

/-- true, positive integers and non-empty strings, arrays, hashes and regexps are truthy -/
theorem C05_truthy :
    (Value.bool true).truthy = true ∧ (∀ i : Int64, 0 < i → (Value.int i).truthy = true) ∧
    (∀ c s, (Value.str (c :: s)).truthy = true) ∧ (∀ x xs, (Value.array (x :: xs)).truthy = true) ∧
    (∀ p ps, (Value.hash (p :: ps)).truthy = true) ∧ (∀ c s, (Value.regexp (c :: s)).truthy = true) := by
  simp [Value.truthy]

variable (M : Machine) (st : RunSt)

/-- `&&` accepts operands of any types and is the conjunction of their truth values -/
theorem C05_and_total (l r : Value) : binop M .and l r = .ok (.bool (l.truthy && r.truthy), []) :=
  rfl

/-- `||` accepts operands of any types and is the disjunction of their truth values -/
theorem C05_or_total (l r : Value) : binop M .or l r = .ok (.bool (l.truthy || r.truthy), []) :=
  rfl

/-- `!` negates a boolean however it was produced, gives true for null and false for anything else -/
theorem C05_bang (v : Value) :
    bangOp v = (match v with | .bool b => .bool (!b) | .null => .bool true | _ => .bool false) := by
  cases v <;> rfl

theorem C05_bang_involutive_on_bool (b : Bool) : bangOp (bangOp (.bool b)) = .bool b := by
  cases b <;> rfl

/-- `Run` returns exactly the truth value of what `Execute` returns, and fails exactly when it does -/
theorem C05_run_verdict (obj : HostVal) (fuel : Nat) :
    (Api.runBool M obj st fuel).1 = (Api.execute M obj st fuel).1.map Value.truthy ∧
    (Api.runBool M obj st fuel).2 = (Api.execute M obj st fuel).2 := by
  simp [Api.runBool]

/-- The conditional jump consults `truthy` and nothing else: executing OpJumpIfFalse with `c` on
    top of the stack continues at the next instruction when `c` is truthy and at the operand
    otherwise (the operand being inside the program).  `if`, `else if`, `while`, `for`, `switch`
    arms, the exit test of `foreach` and the ternary all compile to this one instruction. -/
theorem C05_jif_uses_truthy (obj : HostVal) (codeLen : Nat) (runBody : Bytes → RunSt → Res × RunSt)
    (arg next : Nat) (c : Value) (rest : List Value) :
    step M obj codeLen runBody Op.jumpIfFalse.toNat arg next (c :: rest) st =
      (if c.truthy then .cont next rest st
       else if arg ≥ codeLen then .halt (.error (.error "ipOOB")) st
       else .cont arg rest st) :=
  rfl

/-- no decision in the library compares two objects by address -/
theorem C05_no_identity_comparisons : Generated.identityComparisons = [] := by decide +kernel

/-- non-vacuity: `truthy` and `!` on an integer, a boolean and null -/
example : (Value.int 3).truthy = true ∧ (Value.float 0).truthy = (Value.float 0).truthy ∧
    bangOp (.bool false) = .bool true ∧ bangOp .null = .bool true ∧ bangOp (.int 0) = .bool false := by
  simp [Value.truthy, bangOp]

end EvalFilter.Props.C05
