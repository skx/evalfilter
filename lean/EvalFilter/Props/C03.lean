/-
  C03 — The optimizer never changes what a script does.

  The optimizer is a peephole pass over the byte string.  The property as stated is FALSE of the
  unchanged code in one respect, recorded as known finding KF-12 and proved below
  (`C03_sqrt_fold_changes_type`): folding `√` of a perfect square yields an INTEGER where the
  unoptimised program computes a FLOAT.  What is proved for ALL operands:
    * for two pushes and an operator the maths pass folds (`+ - * /` on the 16-bit push operands, `== !=`)
      the VM computes exactly the value the pass writes (that it writes it is what the validator checks,
      program by program), and division by zero, where the pass gives up, is an error of the VM;
    * the instruction patterns the jump pass rewrites behave like what they are replaced with:
      `OpTrue; OpJumpIfFalse x` is a no-op pair (falls through, stack unchanged), `OpFalse; OpJumpIfFalse x`
      is a jump to `x` (stack unchanged), OpNop does nothing.
  Whole programs (Proofs/OptSim1…4, Model/OptCheck): a simulation theorem for the VM loop, in both
  directions - poll counts aside, at any call depth, through nested function runs - under a point-by-point
  correspondence of instruction pointers with "windows" each side crosses in its own number of turns; a
  validator for the steps of all four passes (maths, jumps, NOP removal with jump relocation, dead-code removal), proved
  sound with respect to that theorem; and `C03_optimizer_preserves_finished_runs`: if every step the
  optimizer takes on a program validates, every run of the NoOptimize program that ends is matched by a
  run of the optimised program with the same result, output and variables.  The validator is run on the
  raw and optimised bytes the real evaluator holds, for every generated program (translation validation);
  it refuses exactly the √ fold (KF-12).  The converse is `C03_optimizer_adds_no_finished_runs`: the
  correspondence is symmetric (`Corr.symm`), and the simulation is by lexicographic induction on the fuel of
  the run that ends and the other side's distance to the end of its body, for the NOPs only one side
  executes.  Not proved: that validation succeeds for every compilable script (it is checked per program).
  The streams S-opt (constant arithmetic / comparisons / conditions placed inside and next to every
  control-flow construct) carry the direct oracle "optimised and NoOptimize evaluators agree on result,
  host-call trace, variables and stack residue for every run", and the optimised real bytes of every
  generated program pass the Lean byte-code verifier (C18).
-/
import EvalFilter.Props.Tables
import EvalFilter.Proofs.OptSim4
import EvalFilter.Proofs.NoOof
import EvalFilter.Proofs.FnDefs2

namespace EvalFilter.Props.C03
open EvalFilter.VM

variable (M : Machine)

/-- what OpPush leaves on the stack for an operand `n` (`OptFold.pushed` again: the two unfold to the same) -/
def pushed (n : Nat) : Value := .int (Int64.ofNat n)

theorem C03_fold_add (a b : Nat) :
    binop M .add (pushed b) (pushed a) = .ok (pushed (a + b), []) :=
  OptFold.fold_add M a b

theorem C03_fold_mul (a b : Nat) :
    binop M .mul (pushed b) (pushed a) = .ok (pushed (a * b), []) :=
  OptFold.fold_mul M a b

theorem C03_fold_sub (a b : Nat) (h : a ≤ b) :
    binop M .sub (pushed b) (pushed a) = .ok (pushed (b - a), []) :=
  OptFold.fold_sub M a b h

theorem C03_fold_div (a b : Nat) (ha : a ≠ 0) (ha' : a < 65536) (hb : b < 65536) :
    binop M .div (pushed b) (pushed a) = .ok (pushed (b / a), []) :=
  OptFold.fold_div M a b ha ha' hb

/-- division by zero, where the maths pass gives up (`Optimizer.mathsWalk` answers `.error`), is an error of
    the VM -/
theorem C03_div_zero_left_alone (b : Nat) :
    binop M .div (pushed b) (pushed 0) = .error (.error "div0") := by
  simp [binop, intOp, pushed, Except.map, err]

/-- comparison folds: `==` / `!=` of two pushes become OpTrue / OpFalse exactly as the VM decides -/
theorem C03_fold_equal (a b : Nat) (ha : a < 65536) (hb : b < 65536) :
    binop M .equal (pushed b) (pushed a) = .ok (.bool (a == b), []) ∧
    binop M .notEqual (pushed b) (pushed a) = .ok (.bool (a != b), []) :=
  OptFold.fold_equal M a b ha hb

variable (obj : HostVal) (codeLen : Nat) (runBody : Bytes → RunSt → Res × RunSt)

theorem C03_nop (arg next : Nat) (stack : List Value) (st : RunSt) :
    step M obj codeLen runBody Op.nop.toNat arg next stack st = .cont next stack st :=
  Exec.step_nop

/-- `OpTrue; OpJumpIfFalse x`: falls through with the stack unchanged - the same as the NOPs it becomes -/
theorem C03_true_then_jumpIfFalse (x n1 n2 : Nat) (stack : List Value) (st : RunSt) :
    step M obj codeLen runBody Op.true.toNat 0 n1 stack st = .cont n1 (.bool true :: stack) st ∧
    step M obj codeLen runBody Op.jumpIfFalse.toNat x n2 (.bool true :: stack) st = .cont n2 stack st :=
  ⟨Exec.step_true, Exec.step_jif_true⟩

/-- `OpFalse; OpJumpIfFalse x`: continues at `x` with the stack unchanged - the same as walking the
    NOPs the range up to `x` becomes -/
theorem C03_false_then_jumpIfFalse (x n1 n2 : Nat) (stack : List Value) (st : RunSt) (hx : x < codeLen) :
    step M obj codeLen runBody Op.false.toNat 0 n1 stack st = .cont n1 (.bool false :: stack) st ∧
    step M obj codeLen runBody Op.jumpIfFalse.toNat x n2 (.bool false :: stack) st = .cont x stack st :=
  ⟨Exec.step_false, Exec.step_jif hx⟩

section windows
open EvalFilter.Exec EvalFilter.OptSim
variable {M} {obj : HostVal} {code raw opt : Bytes} {ip : Nat} (hM : Exec.NeverDone M)
include hM

theorem steps_nops4 (hc : CodeAt code ip [⟨.nop, 0⟩, ⟨.nop, 0⟩, ⟨.nop, 0⟩, ⟨.nop, 0⟩]) (stack : List Value) (st : RunSt) :
    Steps M obj code 4 (ip, stack, st) (ip + 4, stack, { st with polls := st.polls + 4 }) := by
  simp only [codeAt_cons, Instr.size, Op.length] at hc
  exact (((Steps.instr hM hc.1.fetch fun _ => step_nop).trans (Steps.instr hM hc.2.1.fetch fun _ => step_nop)).trans
    (Steps.instr hM hc.2.2.1.fetch fun _ => step_nop)).trans (Steps.instr hM hc.2.2.2.fetch fun _ => step_nop)

/-- **The arithmetic window.**  Wherever `OpPush b; OpPush a; <op>` stands in a program (op one of the
    folded operators, with `r` the value the VM computes for it), entering it with any stack reaches the
    instruction behind it with `r` on top - and so does `OpPush r` followed by four NOPs (only the numbers
    of turns differ: 3 against 5).  The maths pass itself leaves `NOP NOP NOP; OpPush r; NOP`: that layout,
    with NOPs between the pushes too, is `OptSim.window_reach`. -/
theorem window_arith {a b r : Nat} (o : Op) (ho : isBinary o = true)
    (hbin : binop M o (pushed b) (pushed a) = .ok (pushed r, []))
    (hraw : CodeAt raw ip [⟨.push, b⟩, ⟨.push, a⟩, ⟨o, 0⟩])
    (hopt : CodeAt opt ip [⟨.push, r⟩, ⟨.nop, 0⟩, ⟨.nop, 0⟩, ⟨.nop, 0⟩, ⟨.nop, 0⟩])
    (ha : a < 65536) (hb : b < 65536) (hr : r < 65536) (stack : List Value) (st : RunSt) :
    Steps M obj raw 3 (ip, stack, st) (ip + 7, pushed r :: stack, { st with polls := st.polls + 3 }) ∧
    Steps M obj opt 5 (ip, stack, st) (ip + 7, pushed r :: stack, { st with polls := st.polls + 5 }) := by
  simp only [codeAt_cons, Instr.size, Op.length] at hraw
  have fb := hraw.1.fetch
  have fa := hraw.2.1.fetch
  have fr := hopt.fetch
  rw [storedArg_of_lt rfl hb] at fb
  rw [storedArg_of_lt rfl ha] at fa
  rw [storedArg_of_lt rfl hr] at fr
  constructor
  · exact ((Steps.instr hM fb fun _ => step_push).trans (Steps.instr hM fa fun _ => step_push)).trans
      (Steps.instr hM hraw.2.2.fetch fun _ =>
        (step_binary_ok ho hbin).trans (by simp [isBinary_length ho, Nat.add_assoc]))
  · exact (Steps.instr hM fr fun _ => step_push).trans (steps_nops4 hM hopt.tail _ _)

end windows

open EvalFilter.Exec in
/-- wherever `OpPush b; OpPush a; OpAdd` stands in a program, the window and `OpPush (a+b)` + four NOPs
    lead from the same configuration to the same configuration -/
theorem C03_window_add (obj : HostVal) (raw opt : Bytes) (ip a b : Nat)
    (hraw : CodeAt raw ip [⟨.push, b⟩, ⟨.push, a⟩, ⟨.add, 0⟩])
    (hopt : CodeAt opt ip [⟨.push, a + b⟩, ⟨.nop, 0⟩, ⟨.nop, 0⟩, ⟨.nop, 0⟩, ⟨.nop, 0⟩])
    (hM : NeverDone M) (ha : a < 65536) (hb : b < 65536) (hab : a + b < 65536)
    (stack : List Value) (env : Env) (out : Str) (polls depth fuel : Nat) :
    loop M obj raw (fuel + 3) ip stack ⟨env, out, polls, depth⟩ =
      loop M obj raw fuel (ip + 7) (pushed (a + b) :: stack) ⟨env, out, polls + 3, depth⟩ ∧
    loop M obj opt (fuel + 5) ip stack ⟨env, out, polls, depth⟩ =
      loop M obj opt fuel (ip + 7) (pushed (a + b) :: stack) ⟨env, out, polls + 5, depth⟩ :=
  (window_arith hM .add rfl (C03_fold_add M a b) hraw hopt ha hb hab stack _).imp (·.run fuel) (·.run fuel)

open EvalFilter.Exec in
/-- … `OpPush b; OpPush a; OpMul` -/
theorem C03_window_mul (obj : HostVal) (raw opt : Bytes) (ip a b : Nat)
    (hraw : CodeAt raw ip [⟨.push, b⟩, ⟨.push, a⟩, ⟨.mul, 0⟩])
    (hopt : CodeAt opt ip [⟨.push, a * b⟩, ⟨.nop, 0⟩, ⟨.nop, 0⟩, ⟨.nop, 0⟩, ⟨.nop, 0⟩])
    (hM : NeverDone M) (ha : a < 65536) (hb : b < 65536) (hab : a * b < 65536)
    (stack : List Value) (env : Env) (out : Str) (polls depth fuel : Nat) :
    loop M obj raw (fuel + 3) ip stack ⟨env, out, polls, depth⟩ =
      loop M obj raw fuel (ip + 7) (pushed (a * b) :: stack) ⟨env, out, polls + 3, depth⟩ ∧
    loop M obj opt (fuel + 5) ip stack ⟨env, out, polls, depth⟩ =
      loop M obj opt fuel (ip + 7) (pushed (a * b) :: stack) ⟨env, out, polls + 5, depth⟩ :=
  (window_arith hM .mul rfl (C03_fold_mul M a b) hraw hopt ha hb hab stack _).imp (·.run fuel) (·.run fuel)

open EvalFilter.Exec in
/-- … `OpPush b; OpPush a; OpSub` (folded only when `a ≤ b`) -/
theorem C03_window_sub (obj : HostVal) (raw opt : Bytes) (ip a b : Nat) (hle : a ≤ b)
    (hraw : CodeAt raw ip [⟨.push, b⟩, ⟨.push, a⟩, ⟨.sub, 0⟩])
    (hopt : CodeAt opt ip [⟨.push, b - a⟩, ⟨.nop, 0⟩, ⟨.nop, 0⟩, ⟨.nop, 0⟩, ⟨.nop, 0⟩])
    (hM : NeverDone M) (ha : a < 65536) (hb : b < 65536)
    (stack : List Value) (env : Env) (out : Str) (polls depth fuel : Nat) :
    loop M obj raw (fuel + 3) ip stack ⟨env, out, polls, depth⟩ =
      loop M obj raw fuel (ip + 7) (pushed (b - a) :: stack) ⟨env, out, polls + 3, depth⟩ ∧
    loop M obj opt (fuel + 5) ip stack ⟨env, out, polls, depth⟩ =
      loop M obj opt fuel (ip + 7) (pushed (b - a) :: stack) ⟨env, out, polls + 5, depth⟩ :=
  (window_arith hM .sub rfl (C03_fold_sub M a b hle) hraw hopt ha hb (by omega) stack _).imp (·.run fuel) (·.run fuel)

open EvalFilter.Exec in
/-- … `OpPush b; OpPush a; OpDiv` (folded only when `a ≠ 0`) -/
theorem C03_window_div (obj : HostVal) (raw opt : Bytes) (ip a b : Nat) (hne : a ≠ 0)
    (hraw : CodeAt raw ip [⟨.push, b⟩, ⟨.push, a⟩, ⟨.div, 0⟩])
    (hopt : CodeAt opt ip [⟨.push, b / a⟩, ⟨.nop, 0⟩, ⟨.nop, 0⟩, ⟨.nop, 0⟩, ⟨.nop, 0⟩])
    (hM : NeverDone M) (ha : a < 65536) (hb : b < 65536)
    (stack : List Value) (env : Env) (out : Str) (polls depth fuel : Nat) :
    loop M obj raw (fuel + 3) ip stack ⟨env, out, polls, depth⟩ =
      loop M obj raw fuel (ip + 7) (pushed (b / a) :: stack) ⟨env, out, polls + 3, depth⟩ ∧
    loop M obj opt (fuel + 5) ip stack ⟨env, out, polls, depth⟩ =
      loop M obj opt fuel (ip + 7) (pushed (b / a) :: stack) ⟨env, out, polls + 5, depth⟩ :=
  (window_arith hM .div rfl (C03_fold_div M a b hne ha hb) hraw hopt ha hb
    (by have := Nat.div_le_self b a; omega) stack _).imp (·.run fuel) (·.run fuel)

open EvalFilter.Exec in
/-- a constant-true condition and the four NOPs that replace it -/
theorem C03_window_true_jif (obj : HostVal) (raw opt : Bytes) (ip x : Nat)
    (hraw : CodeAt raw ip [⟨.true, 0⟩, ⟨.jumpIfFalse, x⟩])
    (hopt : CodeAt opt ip [⟨.nop, 0⟩, ⟨.nop, 0⟩, ⟨.nop, 0⟩, ⟨.nop, 0⟩])
    (hM : NeverDone M) (hx : x < raw.length) (hx' : x < 65536)
    (stack : List Value) (env : Env) (out : Str) (polls depth fuel : Nat) :
    loop M obj raw (fuel + 2) ip stack ⟨env, out, polls, depth⟩ =
      loop M obj raw fuel (ip + 4) stack ⟨env, out, polls + 2, depth⟩ ∧
    loop M obj opt (fuel + 4) ip stack ⟨env, out, polls, depth⟩ =
      loop M obj opt fuel (ip + 4) stack ⟨env, out, polls + 4, depth⟩ := by
  simp only [codeAt_cons, Instr.size, Op.length] at hraw
  have fj := hraw.2.fetch
  rw [storedArg_of_lt rfl hx'] at fj
  exact ⟨((OptSim.Steps.instr hM hraw.1.fetch fun _ => step_true).trans
    (OptSim.Steps.instr hM fj fun _ => step_jif hx)).run fuel, (steps_nops4 hM hopt stack _).run fuel⟩

/-- the optimizer replaces `OpPush (r*r); OpSquareRoot` by `OpPush r`: an INTEGER.  The unoptimised
    program computes a FLOAT.  So `type(√9)`, `[…][√9]` and `switch (√9) { case 3 … }` differ. -/
theorem C03_sqrt_fold_changes_type (r : Nat) :
    (pushed r).isType .INTEGER = true ∧
    ∀ v, sqrtOp (pushed (r * r)) = .ok v → v.isType .FLOAT = true := by
  refine ⟨rfl, ?_⟩
  intro v h
  simp only [sqrtOp, pushed] at h
  cases h; rfl

open EvalFilter.Compiler in
/-- every body of the compiled program optimises through validated steps only -/
def validated (c : Compiled) : Bool :=
  (OptCheck.fullTrace (encodeAll c.main)).isSome && c.funcs.all (fun f => (OptCheck.fullTrace (encodeAll f.code)).isSome)

open EvalFilter.Compiler EvalFilter.OptSim in
theorem newMachine_refines (c : Compiled) (fns : List (Str × FnImpl)) (obj : HostVal) (hv : validated c = true) :
    Refines (Api.newMachine c false fns (fun _ => false)) (Api.newMachine c true fns (fun _ => false)) obj ∧
    Refines (Api.newMachine c true fns (fun _ => false)) (Api.newMachine c false fns (fun _ => false)) obj := by
  have e : Api.newMachine c true fns (fun _ => false) = optMachine (Api.newMachine c false fns (fun _ => false)) := by
    simp [Api.newMachine, optMachine, List.map_map, Function.comp_def]
  unfold validated at hv
  simp only [Bool.and_eq_true, List.all_eq_true] at hv
  rw [e]
  refine optimize_refines (Api.newMachine c false fns (fun _ => false)) obj (fun _ => rfl)
    (by simpa [Api.newMachine] using hv.1) fun u hu => ?_
  simp only [Api.newMachine, List.mem_map] at hu
  obtain ⟨g, hg, rfl⟩ := hu
  simpa using hv.2 g hg

open EvalFilter.Compiler in
/-- **The optimizer never changes what a finished run does.**  For every compiled program whose
    optimisation validates, every host-function table, host object, starting variables and step budget: if
    the run of the program prepared with NoOptimize ends - with a value, an error or a panic - then the run
    of the optimised program (the default) ends too, with the same result, the same output (host-call
    markers included, in order) and the same variables.  Poll counts differ (NOPs are polled too), so the
    context is one that does not cancel. -/
theorem C03_optimizer_preserves_finished_runs (c : Compiled) (fns : List (Str × FnImpl)) (obj : HostVal)
    (hv : validated c = true) (f : Nat) (st st' : RunSt) (hst : st.env = st'.env ∧ st.out = st'.out ∧ st.depth = st'.depth)
    (hend : (run (Api.newMachine c false fns (fun _ => false)) obj f st).1 ≠ .error .outOfFuel) :
    ∃ f', (run (Api.newMachine c true fns (fun _ => false)) obj f' st').1 = (run (Api.newMachine c false fns (fun _ => false)) obj f st).1 ∧
      (run (Api.newMachine c true fns (fun _ => false)) obj f' st').2.out = (run (Api.newMachine c false fns (fun _ => false)) obj f st).2.out ∧
      (run (Api.newMachine c true fns (fun _ => false)) obj f' st').2.env = (run (Api.newMachine c false fns (fun _ => false)) obj f st).2.env := by
  obtain ⟨f', h1, h2, h3, _⟩ := (newMachine_refines c fns obj hv).1 f st st' ⟨hst.1, hst.2.1, hst.2.2, fun e => by cases e⟩ hend
  exact ⟨f', h1.symm, h3.symm, h2.symm⟩

open EvalFilter.Compiler in
/-- **… and conversely**: if the run of the optimised program ends, so does the run of the NoOptimize
    program, with the same result, output and variables.  Together with the theorem above: one of the two
    runs ends exactly when the other does (with enough budget), and then they agree - the optimizer can
    neither break a script nor make a looping script terminate. -/
theorem C03_optimizer_adds_no_finished_runs (c : Compiled) (fns : List (Str × FnImpl)) (obj : HostVal)
    (hv : validated c = true) (f' : Nat) (st st' : RunSt) (hst : st.env = st'.env ∧ st.out = st'.out ∧ st.depth = st'.depth)
    (hend : (run (Api.newMachine c true fns (fun _ => false)) obj f' st').1 ≠ .error .outOfFuel) :
    ∃ f, (run (Api.newMachine c false fns (fun _ => false)) obj f st).1 = (run (Api.newMachine c true fns (fun _ => false)) obj f' st').1 ∧
      (run (Api.newMachine c false fns (fun _ => false)) obj f st).2.out = (run (Api.newMachine c true fns (fun _ => false)) obj f' st').2.out ∧
      (run (Api.newMachine c false fns (fun _ => false)) obj f st).2.env = (run (Api.newMachine c true fns (fun _ => false)) obj f' st').2.env := by
  obtain ⟨f, h1, h2, h3, _⟩ := (newMachine_refines c fns obj hv).2 f' st' st
    ⟨hst.1.symm, hst.2.1.symm, hst.2.2.symm, fun e => by cases e⟩ hend
  exact ⟨f, h1.symm, h3.symm, h2.symm⟩

open EvalFilter.Compiler EvalFilter.Exec in
/-- **The optimised program computes the language's semantics too.**  For every script of the statement
    fragment of C02's end-to-end theorem (`pureSs`) whose optimisation validates: the run of the OPTIMISED
    program ends with the result, the output and the global variables the big-step semantics prescribes. -/
theorem C03_optimised_program_correct (F : FnTable) (prog : Program) (hp : pureSs prog = true) (hne : 1 ≤ Stmt.sizes prog) (c : Compiled)
    (hc : compileProgram prog = .ok c) (hv : validated c = true) (fns : List (Str × FnImpl)) (obj : HostVal) (env : Env) (out : Str)
    (f : Nat)
    (hF : FnOK (Api.newMachine c false fns (fun _ => false)) F obj)
    (hnd : execSs (Api.newMachine c false fns (fun _ => false)) F obj 0 f prog env out ≠ .diverged) :
    ∃ f', match programResult 0 0 (execSs (Api.newMachine c false fns (fun _ => false)) F obj 0 f prog env out) with
      | some (r, s) =>
        (run (Api.newMachine c true fns (fun _ => false)) obj f' ⟨env, out, 0, 0⟩).1 = r ∧
        (run (Api.newMachine c true fns (fun _ => false)) obj f' ⟨env, out, 0, 0⟩).2.out = s.out ∧
        (run (Api.newMachine c true fns (fun _ => false)) obj f' ⟨env, out, 0, 0⟩).2.env.globals = s.env.globals
      | none => True := by
  obtain ⟨n, k, h⟩ := program_correct F prog hp hne c hc fns obj env out 0 0 f hF hnd
  obtain ⟨st', hrun, hres⟩ := h 0
  generalize hx : execSs (Api.newMachine c false fns (fun _ => false)) F obj 0 f prog env out = X at hnd hres ⊢
  -- whatever the poll count, the semantics gives one result `r`, and not the out-of-budget error
  obtain ⟨r, s, hpr, hr⟩ : ∃ (r : Res) (s : RunSt), (∀ p, programResult p 0 X = some (r, { s with polls := p })) ∧ r ≠ .error .outOfFuel := by
    cases X with
    | normal a b => exact ⟨_, ⟨a, b, 0, 0⟩, fun _ => rfl, by simp⟩
    | returned v a b => exact ⟨_, ⟨a, b, 0, 0⟩, fun _ => rfl, by simp⟩
    | failed e a b =>
      exact ⟨_, ⟨a, b, 0, 0⟩, fun _ => rfl, by simpa [NotOof] using (exec_noof _ F obj f).Ss _ _ _ _ _ _ _ hx⟩
    | diverged => exact absurd rfl hnd
  rw [hpr] at hres ⊢
  obtain ⟨h1, h2, h3, _⟩ := hres
  obtain ⟨f', g1, g2, g3⟩ := C03_optimizer_preserves_finished_runs c fns obj hv (0 + n) ⟨env, out, 0, 0⟩ ⟨env, out, 0, 0⟩
    ⟨rfl, rfl, rfl⟩ (by rw [hrun, h1]; exact hr)
  exact ⟨f', by rw [g1, hrun, h1], by rw [g2, hrun, h2], by rw [g3, hrun, h3]⟩

open EvalFilter.Compiler EvalFilter.Exec in
/-- … scripts with their own functions included (defined anywhere): the OPTIMISED program - main
    body and function bodies optimised - computes the semantics over the script's own function table -/
theorem C03_optimised_program_with_functions_correct (prog : Program) (hp : pureSs prog = true)
    (hne : 1 ≤ Stmt.sizes prog) (c : Compiled)
    (hc : compileProgram prog = .ok c) (hv : validated c = true) (fns : List (Str × FnImpl)) (obj : HostVal) (env : Env) (out : Str)
    (f : Nat)
    (hnd : execSs (Api.newMachine c false fns (fun _ => false)) (allDefs prog) obj 0 f prog env out ≠ .diverged) :
    ∃ f', match programResult 0 0 (execSs (Api.newMachine c false fns (fun _ => false)) (allDefs prog) obj 0 f prog env out) with
      | some (r, s) =>
        (run (Api.newMachine c true fns (fun _ => false)) obj f' ⟨env, out, 0, 0⟩).1 = r ∧
        (run (Api.newMachine c true fns (fun _ => false)) obj f' ⟨env, out, 0, 0⟩).2.out = s.out ∧
        (run (Api.newMachine c true fns (fun _ => false)) obj f' ⟨env, out, 0, 0⟩).2.env.globals = s.env.globals
      | none => True :=
  C03_optimised_program_correct (allDefs prog) prog hp hne c hc hv fns obj env out f
    (fnOK_of_compile_all prog hp c hc fns obj) hnd

/-- the validator accepts real programs: `x = 1 + 2 * 3; if (true) { x = x + 1; } if (1 == 2) { x = 0; } return x;`
    compiled by the model compiler optimises in validated steps -/
example : validated (match Compiler.compileProgram
    [ .expr (.assign ['x'] (.infix ['+'] (.intLit ['1'] 1) (.infix ['*'] (.intLit ['2'] 2) (.intLit ['3'] 3)))),
      .expr (.ifE (.boolLit true) [ .expr (.assign ['x'] (.infix ['+'] (.ident ['x']) (.intLit ['1'] 1))) ] none),
      .expr (.ifE (.infix ['=', '='] (.intLit ['1'] 1) (.intLit ['2'] 2)) [ .expr (.assign ['x'] (.intLit ['0'] 0)) ] none),
      .ret (.ident ['x']) ] with | .ok c => c | .error _ => ⟨[], [], []⟩) = true := by decide +kernel

/-- … and refuses the one fold that does change behaviour (KF-12): `return √9;` -/
example : validated (match Compiler.compileProgram [ .ret (.prefix ['√'] (.intLit ['9'] 9)) ] with
    | .ok c => c | .error _ => ⟨[], [], []⟩) = false := by decide +kernel

/-- the opcode numbering the passes compare bytes with is the one in code/code.go (regenerated) -/
theorem C03_opcodes_are_the_code : Generated.opcodes = Spec.Tables.opcodes := Props.Tables.gen_opcodes

end EvalFilter.Props.C03
