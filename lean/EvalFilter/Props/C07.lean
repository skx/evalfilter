/-
  C07 — A prepared script carries no hidden state from one run to the next.

  In the model the prepared program (`Machine`: constants, main byte code, function
  bodies, function table) is immutable, and a run maps a run state
  (variables + open scopes) to a result and a new run state.  The theorems show that,
  whatever happens during a run - return from any depth, error, panic, time-out,
  running out of byte code - no scope survives it, so that the only thing a run
  hands to the next one is the global variables; hence every run of a history
  equals the first run of a fresh evaluator holding the same variables, and costs
  the same number of instruction polls.

  That the Go code really has no other state that survives (the swapped
  `vm.bytecode`/`vm.stack`, mutated constants, iteration offsets) is the tie:
  the regenerated `mutationSites` table and the S-hist stream, whose direct oracle
  compares a much-used evaluator with a fresh one on the real code.
-/
import EvalFilter.Proofs.VMFrame
import EvalFilter.Props.Tables

namespace EvalFilter.Props.C07
open EvalFilter.VM

/-- no scope is open -/
def Clean (st : RunSt) : Prop := st.env.scopes = []

/-- Whatever the byte code, the object and the outcome (value, error, panic, time-out, out of fuel):
    a run that starts with no open scope ends with no open scope. -/
theorem C07_run_leaves_clean (M : Machine) (obj : HostVal) (fuel : Nat) (st : RunSt) (h : Clean st) :
    Clean (run M obj fuel st).2 := by
  unfold Clean at *
  unfold run
  split
  · exact h
  · simp [finish, Env.truncate, h]

/-- more generally a run never leaves more scopes open than it found -/
theorem C07_run_scopes_le (M : Machine) (obj : HostVal) (fuel : Nat) (st : RunSt) :
    (run M obj fuel st).2.env.scopes.length ≤ st.env.scopes.length := by
  unfold run
  split
  · exact Nat.le_refl _
  · simp [finish, Env.truncate, List.length_take]
    omega

/-- the run of a user-defined function body (the nested `vm.Run`) leaves at most the function's own scope,
    which OpCall then removes -/
theorem C07_invoke_scopes_le (runBody : Bytes → RunSt → Res × RunSt) (uf : UserFn) (args : List Value) (st : RunSt) :
    (invoke runBody uf args st).2.env.scopes.length ≤ st.env.scopes.length + 1 :=
  invoke_scopes_le runBody uf args st

/-- … and the call-depth counter is back where it was -/
theorem C07_invoke_depth_restored (runBody : Bytes → RunSt → Res × RunSt) (uf : UserFn) (args : List Value) (st : RunSt) :
    (invoke runBody uf args st).2.depth = st.depth := by
  unfold invoke
  dsimp only
  split
  · rfl
  · split
    · rfl
    · split <;> rfl

/-- one run of a prepared evaluator, as a function of the variables it holds:
    (result, output, variables afterwards, instruction polls used) -/
def runWith (M : Machine) (fuel : Nat) (globals : Scope) (obj : HostVal) : Res × Str × Scope × Nat :=
  let r := run M obj fuel { env := { globals := globals, scopes := [] }, out := [], polls := 0 }
  (r.1, r.2.out, r.2.env.globals, r.2.polls)

/-- a history of runs on one evaluator: the state carried from run to run -/
def history (M : Machine) (fuel : Nat) : RunSt → List HostVal → List (Res × Str × Scope × Nat)
  | _, [] => []
  | st, obj :: rest =>
    let r := run M obj fuel { env := st.env, out := [], polls := 0 }
    (r.1, r.2.out, r.2.env.globals, r.2.polls) :: history M fuel r.2 rest

/-- the same history on fresh evaluators: each run on a new evaluator given the current variables -/
def freshHistory (M : Machine) (fuel : Nat) : Scope → List HostVal → List (Res × Str × Scope × Nat)
  | _, [] => []
  | g, obj :: rest =>
    let r := runWith M fuel g obj
    r :: freshHistory M fuel r.2.2.1 rest

/-- For every finite sequence of runs - including runs that end by error, panic, argument
    mismatch, early return out of nested loops and calls, or time-out - the k-th run on a much-used
    evaluator gives the result, output, resulting variables AND cost of the first run of a freshly
    prepared evaluator holding the same variables. -/
theorem C07_history_independent (M : Machine) (fuel : Nat) (st : RunSt) (h : Clean st) (objs : List HostVal) :
    history M fuel st objs = freshHistory M fuel st.env.globals objs := by
  induction objs generalizing st with
  | nil => rfl
  | cons obj rest ih =>
    obtain ⟨⟨g, s⟩, out, polls, depth⟩ := st
    cases (h : s = [])
    simp only [history, freshHistory, runWith]
    congr 1
    exact ih _ (C07_run_leaves_clean M obj fuel _ rfl)

/-- in particular the cost of a run (instruction polls) does not grow with the number of earlier runs -/
theorem C07_cost_independent (M : Machine) (fuel : Nat) (st : RunSt) (h : Clean st) (objs : List HostVal) :
    (history M fuel st objs).map (·.2.2.2) = (freshHistory M fuel st.env.globals objs).map (·.2.2.2) := by
  rw [C07_history_independent M fuel st h objs]

/-- the only places in the library that write to an object in place are the ones audited -/
theorem C07_mutation_sites_audited : Generated.mutationSites = Spec.Tables.mutationSites :=
  Props.Tables.gen_mutationSites

/-- non-vacuity: a freshly constructed evaluator state is clean -/
example : Clean { env := { globals := [("n".toList, .int 1)], scopes := [] } } := rfl

end EvalFilter.Props.C07
