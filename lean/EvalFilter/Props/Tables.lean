/-
  Table obligations.  Two kinds, both checked by the kernel:

  * `gen_*`   : the table regenerated from /repo's source on this run equals the SPEC table - the two are
                the same list of literals, so `rfl`;
  * `model_*` : the model's function agrees with the SPEC table on every token / opcode, by evaluation
                (`decide +kernel`).

  Together they tie the hand-written model to the code for everything that is a table.
-/
import EvalFilter.Spec.Tables
import EvalFilter.Generated.Opcodes
import EvalFilter.Generated.Tokens
import EvalFilter.Generated.LexerTables
import EvalFilter.Generated.ParserTables
import EvalFilter.Generated.CompilerTables
import EvalFilter.Generated.Builtins
import EvalFilter.Generated.TypeFacts
import EvalFilter.Model.Api

namespace EvalFilter.Props.Tables

theorem gen_opcodes : Generated.opcodes = Spec.Tables.opcodes := rfl
theorem gen_defaultOpLength : Generated.defaultOpLength = Spec.Tables.defaultOpLength := rfl
theorem gen_tokenTypes : Generated.tokenTypes = Spec.Tables.tokenTypes := rfl
theorem gen_keywords : Generated.keywords = Spec.Tables.keywords := rfl
theorem gen_slashDivAfter : Generated.slashDivAfter = Spec.Tables.slashDivAfter := rfl
theorem gen_precedenceLevels : Generated.precedenceLevels = Spec.Tables.precedenceLevels := rfl
theorem gen_precedences : Generated.precedences = Spec.Tables.precedences := rfl
theorem gen_parselets : Generated.parselets = Spec.Tables.parselets := rfl
theorem gen_parseExpressionCalls :
    Generated.parseExpressionCalls = Spec.Tables.parseExpressionCalls := rfl
theorem gen_compileInfixOps : Generated.compileInfixOps = Spec.Tables.compileInfixOps := rfl
theorem gen_compilePrefixOps : Generated.compilePrefixOps = Spec.Tables.compilePrefixOps := rfl
theorem gen_inlineIntBounds : Generated.inlineIntBounds = Spec.Tables.inlineIntBounds := rfl
theorem gen_maxProgramSize : Generated.maxProgramSize = Spec.Tables.maxProgramSize := rfl
theorem gen_builtins : Generated.builtins = Spec.Tables.builtins := rfl
theorem gen_mutationSites : Generated.mutationSites = Spec.Tables.mutationSites := rfl
theorem gen_apiShapes : Generated.apiShapes = Spec.Tables.apiShapes := rfl
theorem gen_packageVars : Generated.packageVars = Spec.Tables.packageVars := rfl

theorem model_opcodes :
    Op.all.map (fun o => (o.name, o.toNat, o.length)) = Spec.Tables.opcodes := by decide +kernel

theorem model_opcode_roundtrip : ∀ o ∈ Op.all, Op.ofNat? o.toNat = some o := by decide +kernel

/-- there are 43 opcodes, numbered from 0 -/
theorem model_opcode_unknown : ∀ n, n < 256 → (Op.ofNat? n).isSome = decide (n < 43) := by decide +kernel

/-- `+ 1`: `TokType.NONE` is Go's zero value `Type("")`, which token.go does not declare -/
theorem model_tokenTypes :
    TokType.all.length = Spec.Tables.tokenTypes.length + 1 ∧
    ∀ t ∈ TokType.all, t = .NONE ∨ (Spec.Tables.tokenTypes.lookup t.name).isSome := by decide +kernel

theorem model_keywords :
    keywords.map (fun (k, t) => (String.ofList k, t.name)) = Spec.Tables.keywords := by decide +kernel

theorem model_slashDivAfter :
    ∀ t ∈ TokType.all, Lexer.slashDivAfter.contains t = Spec.Tables.slashDivAfter.contains t.name := by
  decide +kernel

/-- numeric level of a level name: its index in the `iota` block, which `_` opens -/
def levelOf (name : String) : Nat := Spec.Tables.precedenceLevels.idxOf name

theorem model_precedence :
    ∀ t ∈ TokType.all,
      Parser.precedence t =
        (match Spec.Tables.precedences.lookup t.name with
         | some l => levelOf l
         | none => levelOf "LOWEST") := by decide +kernel

theorem model_levels :
    [Parser.LOWEST, Parser.TERNARY, Parser.ASSIGN, Parser.COND, Parser.EQUALS, Parser.CMP,
     Parser.LESSGREATER, Parser.SUM, Parser.PRODUCT, Parser.POWER, Parser.MOD, Parser.PREFIX,
     Parser.CALL, Parser.INDEX] =
    ["LOWEST", "TERNARY", "ASSIGN", "COND", "EQUALS", "CMP", "LESSGREATER", "SUM", "PRODUCT", "POWER",
     "MOD", "PREFIX", "CALL", "INDEX"].map levelOf := by decide +kernel

def prefixMethod : Parser.PrefixFn → String
  | .prefixOp => "parsePrefixExpression" | .eof => "parseEOF" | .boolLit => "parseBooleanLiteral"
  | .floatLit => "parseFloatLiteral" | .whileS => "parseWhileStatement" | .foreachS => "parseForEach"
  | .funcDef => "parseFunctionDefinition" | .ident => "parseIdentifier" | .ifE => "parseIfExpression"
  | .illegal => "parseIllegal" | .intLit => "parseIntegerLiteral" | .localV => "parseLocalVariable"
  | .hashLit => "parseHashLiteral" | .grouped => "parseGroupedExpression" | .arrayLit => "parseArrayLiteral"
  | .regexpLit => "parseRegexpLiteral" | .stringLit => "parseStringLiteral" | .switchS => "parseSwitchStatement"

def infixMethod : Parser.InfixFn → String
  | .binary => "parseInfixExpression" | .assign => "parseAssignExpression" | .call => "parseCallExpression"
  | .index => "parseIndexExpression" | .ternary => "parseTernaryExpression"

def parseletOf (kind : String) (t : TokType) : Option String :=
  (Spec.Tables.parselets.find? (fun p => p.1 == kind && p.2.1 == t.name)).map (·.2.2)

theorem model_parselets :
    ∀ t ∈ TokType.all,
      (Parser.prefixFn t).map prefixMethod = parseletOf "Prefix" t ∧
      (Parser.infixFn t).map infixMethod = parseletOf "Infix" t ∧
      Parser.isPostfix t = (parseletOf "Postfix" t).isSome := by decide +kernel

/-- every operator of the compiler's table is compiled by the model to the same opcode(s) -/
theorem model_compileInfixOps :
    ∀ p ∈ Spec.Tables.compileInfixOps,
      (if p.2 == "OpSet" then (Compiler.compoundOp p.1.toList).isSome
       else (Compiler.binaryOp p.1.toList).map Op.name == some p.2 ||
            (Compiler.compoundOp p.1.toList).map Op.name == some p.2) = true := by decide +kernel

theorem model_compilePrefixOps :
    ∀ p ∈ Spec.Tables.compilePrefixOps, (Compiler.prefixOp p.1.toList).map Op.name = some p.2 := by
  decide +kernel

theorem model_limits :
    Spec.Tables.inlineIntBounds = ["0", toString Compiler.inlineLimit] ∧
    Compiler.maxProgramSize = Spec.Tables.maxProgramSize := by decide +kernel

theorem model_builtins : Builtins.names = Spec.Tables.builtins.map (·.1) := by decide +kernel

end EvalFilter.Props.Tables
