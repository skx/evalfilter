/-
  C17 — Built-in functions keep their documented contracts.
-/
import EvalFilter.Model.VM
import EvalFilter.Proofs.StrOrder

namespace EvalFilter.Props.C17
open EvalFilter.VM EvalFilter.Builtins

variable (M : Machine)

def resVal : BRes → Option Value
  | { res := .val v, .. } => some v
  | _ => none

/-- the comparison used by min, max and between IS the `<=` operator of the language on numbers -/
theorem C17_le_is_the_operator (a b : Value) (ha : isNumber a = true) (hb : isNumber b = true) :
    binop M .lessEqual a b = .ok (.bool (numberLessEqual a b), []) := by
  -- four pairs of number types are left, and on each both sides compute the same comparison
  cases a <;> cases ha <;> cases b <;> cases hb <;> rfl

/-! `min`, `max` and `between` on arguments of every kind.  (Here and below a `call` with a literal name
    reduces by computation; `simp [call]` would first make the equations of all its arms.) -/

theorem min_eq (a b : Value) : resVal (call "min" [a, b]) =
    some (if isNumber a && isNumber b then (if numberLessEqual a b then a else b) else .null) := by
  show resVal (if _ then _ else _) = _
  split <;> rfl

theorem max_eq (a b : Value) : resVal (call "max" [a, b]) =
    some (if isNumber a && isNumber b then (if numberLessEqual b a then a else b) else .null) := by
  show resVal (if _ then _ else _) = _
  split <;> rfl

theorem between_eq (v lo hi : Value) : resVal (call "between" [v, lo, hi]) =
    some (if isNumber v && isNumber lo && isNumber hi then .bool (numberLessEqual lo v && numberLessEqual v hi)
          else .null) := by
  show resVal (if _ then _ else _) = _
  split <;> rfl

theorem C17_min (a b : Value) (ha : isNumber a = true) (hb : isNumber b = true) :
    resVal (call "min" [a, b]) = some (if numberLessEqual a b then a else b) := by
  simp [min_eq, ha, hb]

theorem C17_max (a b : Value) (ha : isNumber a = true) (hb : isNumber b = true) :
    resVal (call "max" [a, b]) = some (if numberLessEqual b a then a else b) := by
  simp [max_eq, ha, hb]

/-- min and max return one of their two arguments -/
theorem C17_min_max_select (a b : Value) (ha : isNumber a = true) (hb : isNumber b = true) :
    (resVal (call "min" [a, b]) = some a ∨ resVal (call "min" [a, b]) = some b) ∧
    (resVal (call "max" [a, b]) = some a ∨ resVal (call "max" [a, b]) = some b) := by
  rw [C17_min a b ha hb, C17_max a b ha hb]
  constructor <;> split <;> simp

/-- on integers min is the smaller and max the larger -/
theorem C17_min_max_int (a b : Int64) :
    resVal (call "min" [.int a, .int b]) = some (.int (if a ≤ b then a else b)) ∧
    resVal (call "max" [.int a, .int b]) = some (.int (if b ≤ a then a else b)) := by
  rw [C17_min _ _ rfl rfl, C17_max _ _ rfl rfl]
  simp only [numberLessEqual, decide_eq_true_eq]
  constructor <;> split <;> rfl

/-- between(v, lo, hi) is true exactly when lo <= v <= hi -/
theorem C17_between (v lo hi : Value) (h1 : isNumber v = true) (h2 : isNumber lo = true) (h3 : isNumber hi = true) :
    resVal (call "between" [v, lo, hi]) = some (.bool (numberLessEqual lo v && numberLessEqual v hi)) := by
  simp [between_eq, h1, h2, h3]

theorem C17_between_int (v lo hi : Int64) :
    resVal (call "between" [.int v, .int lo, .int hi]) = some (.bool (decide (lo ≤ v) && decide (v ≤ hi))) := by
  rw [C17_between _ _ _ rfl rfl rfl]; simp [numberLessEqual]

/-- arguments that are not numbers yield null -/
theorem C17_min_max_between_non_numbers (a b c : Value) (h : isNumber a = false ∨ isNumber b = false) :
    resVal (call "min" [a, b]) = some .null ∧ resVal (call "max" [a, b]) = some .null ∧
    resVal (call "between" [a, b, c]) = some .null ∧ resVal (call "between" [c, a, b]) = some .null := by
  rcases h with h | h <;> simp [min_eq, max_eq, between_eq, h]

/-- sort and reverse return a permutation of their input (which, values being immutable, is unchanged) -/
theorem C17_sort_perm (vs : List Value) (lower rev : Bool) : (sortValues vs lower rev).Perm vs := by
  simp only [sortValues]
  exact ((List.mergeSort_perm _ _).map Prod.snd).trans
    (List.Perm.of_eq (by simp [List.map_map, Function.comp_def]))

theorem C17_sort_length (vs : List Value) (lower rev : Bool) : (sortValues vs lower rev).length = vs.length :=
  (C17_sort_perm vs lower rev).length_eq

theorem joinWith_cons (sep a : Str) {l : List Str} (h : l ≠ []) :
    joinWith sep (a :: l) = a ++ sep ++ joinWith sep l := by
  cases l with
  | nil => exact absurd rfl h
  | cons b bs => rfl

theorem joinWith_append_pair (sep : Str) (acc : List Str) (x y : Str) :
    joinWith sep (acc ++ [x, y]) = joinWith sep (acc ++ [x ++ sep ++ y]) := by
  induction acc with
  | nil => simp [joinWith]
  | cons a as ih =>
    rw [List.cons_append, List.cons_append, joinWith_cons _ _ (by simp), joinWith_cons _ _ (by simp), ih]

/-- at every turn of the loop of `strings.Split`, the pieces cut off so far and the text not yet looked at
    join to the same string (so the fuel plays no part) -/
theorem joinWith_go (sep : Str) (fuel : Nat) (rest cur : Str) (acc : List Str) :
    joinWith sep (splitOn.go sep fuel rest cur acc) = joinWith sep (acc ++ [cur ++ rest]) := by
  induction fuel generalizing rest cur acc with
  | zero => rfl
  | succ n ih =>
    cases rest with
    | nil => simp [splitOn.go]
    | cons c cs =>
      simp only [splitOn.go]
      split
      · next hp =>
        have hpre := List.prefix_iff_eq_append.mp ((Str.hasPrefix_iff _ _).mp hp)
        rw [ih, List.append_assoc, List.singleton_append, List.nil_append, joinWith_append_pair,
          List.append_assoc cur, hpre]
      · rw [ih, List.append_assoc cur]; rfl

theorem joinWith_singletons (s : Str) : joinWith [] (s.map (fun c => [c])) = s := by
  induction s with
  | nil => rfl
  | cons c cs ih =>
    cases cs with
    | nil => rfl
    | cons d ds => simp only [List.map_cons, joinWith] at ih ⊢; simp [ih]

/-- join(split(s, d), d) is s, for every string and every separator -/
theorem C17_join_split (s d : Str) : joinWith d (splitOn s d) = s := by
  unfold splitOn
  split
  · next hd => rw [List.isEmpty_iff.mp hd, joinWith_singletons]
  · rw [joinWith_go]; rfl

theorem C17_join_split_builtin (s d : Str) :
    (match resVal (call "split" [.str s, .str d]) with
     | some arr => resVal (call "join" [arr, .str d])
     | none => none) = some (.str s) := by
  show some (Value.str (joinWith d (((splitOn s d).map Value.str).map Value.inspect))) = _
  rw [List.map_map, show Value.inspect ∘ Value.str = id from rfl, List.map_id, C17_join_split]

theorem C17_string_is_printed_form (v : Value) : resVal (call "string" [v]) = some (.str v.inspect) := rfl

theorem C17_type_names (v : Value) (t : VType) (h : v.type? = some t) :
    resVal (call "type" [v]) = some (.str (toLower t.name)) := by
  show some (Value.str (toLower ((v.type?.map VType.name).getD []))) = _
  rw [h]; rfl

theorem C17_len_string (s : Str) : resVal (call "len" [.str s]) = some (.int (Int64.ofNat s.length)) := rfl

def isNull : Option Value → Bool | some .null => true | _ => false
def isFalse : Option Value → Bool | some (.bool false) => true | _ => false

/-- wrong argument counts yield null (false for `match`): the registry (`Builtins.names`) without `match`, `now`,
    `time`, `panic`, `print`, `printf`, called with no argument and with four (the list for four also leaves out
    `sprintf`) -/
theorem C17_wrong_arity_null :
    ∀ n ∈ ["between", "float", "getenv", "int", "join", "keys", "len", "lower", "max", "min", "replace",
           "reverse", "sort", "split", "sprintf", "string", "trim", "type", "upper", "hour", "minute",
           "seconds", "day", "month", "year", "weekday"],
      isNull (resVal (call n [])) = true := by decide +kernel

theorem C17_wrong_arity_null_too_many :
    ∀ n ∈ ["between", "float", "getenv", "int", "join", "keys", "len", "lower", "max", "min", "replace",
           "reverse", "sort", "split", "string", "trim", "type", "upper", "hour", "minute",
           "seconds", "day", "month", "year", "weekday"],
      isNull (resVal (call n [.int 1, .int 2, .int 3, .int 4])) = true := by decide +kernel

theorem C17_match_wrong_arity_false :
    isFalse (resVal (call "match" [])) = true ∧ isFalse (resVal (call "match" [.str []])) = true ∧
    isFalse (resVal (call "match" [.str [], .str [], .str []])) = true := by decide +kernel

end EvalFilter.Props.C17
