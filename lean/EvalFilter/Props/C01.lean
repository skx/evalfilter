/-
  C01 — Expressions evaluate to the value the language defines, or to an error.

  The operator semantics is stated outright, as laws of the model's
  `executeBinaryOperation` (`VM.binop`), `executeIndexExpression`, the unary
  operators and the range operator, for ALL operand values (no sampling): each
  sentence of the property statement is a theorem below.  Floating-point
  arithmetic itself (`+ - * / <` on `Float`) is the hardware's and is never
  unfolded, so the theorems hold for any interpretation of those primitives.
  At the end, for whole expressions: the code the compiler emits computes the
  big-step value `evalE`, which applies these laws (`C01_expr_correct` …).

  The tie to the Go code: `Props/Tables.lean` (operator → opcode table, opcode
  numbering) and the correspondence streams S-ops (every operator × every ordered
  pair of boundary values × three provenances, exhaustive) and S-expr.
-/
import EvalFilter.Proofs.NoOof
import EvalFilter.Proofs.StrOrder

namespace EvalFilter.Props.C01
open EvalFilter.VM

variable (M : Machine)

theorem C01_dispatch_int_int (op : Op) (a b : Int64) (h1 : op ≠ .and) (h2 : op ≠ .or) :
    binop M op (.int a) (.int b) = (intOp op a b).map (fun v => (v, [])) := by
  simp [binop, h1, h2]

theorem C01_int_add (a b : Int64) : binop M .add (.int a) (.int b) = .ok (.int (a + b), []) := rfl
theorem C01_int_sub (a b : Int64) : binop M .sub (.int a) (.int b) = .ok (.int (a - b), []) := rfl
theorem C01_int_mul (a b : Int64) : binop M .mul (.int a) (.int b) = .ok (.int (a * b), []) := rfl
theorem C01_int_div (a b : Int64) (h : b ≠ 0) : binop M .div (.int a) (.int b) = .ok (.int (a / b), []) := by
  simp [binop, intOp, Except.map, h]
theorem C01_int_mod (a b : Int64) (h : b ≠ 0) : binop M .mod (.int a) (.int b) = .ok (.int (a % b), []) := by
  simp [binop, intOp, Except.map, h]

theorem C01_int_arith_stays_int (op : Op) (a b : Int64) (v : Value)
    (hop : op = .add ∨ op = .sub ∨ op = .mul ∨ op = .div ∨ op = .mod ∨ op = .power)
    (h : intOp op a b = .ok v) : ∃ i, v = .int i := by
  rcases hop with rfl | rfl | rfl | rfl | rfl | rfl <;> simp only [intOp] at h
  · exact ⟨_, (Except.ok.inj h).symm⟩
  · exact ⟨_, (Except.ok.inj h).symm⟩
  · exact ⟨_, (Except.ok.inj h).symm⟩
  · split at h
    · cases h
    · exact ⟨_, (Except.ok.inj h).symm⟩
  · split at h
    · cases h
    · exact ⟨_, (Except.ok.inj h).symm⟩
  · split at h
    · split at h
      · exact ⟨_, (Except.ok.inj h).symm⟩
      · cases h
    · cases h

theorem C01_mixed_int_float (op : Op) (a : Int64) (b : Float) :
    binop M op (.int a) (.float b) =
      (if op = .and then .ok (.bool ((Value.int a).truthy && (Value.float b).truthy), [])
       else if op = .or then .ok (.bool ((Value.int a).truthy || (Value.float b).truthy), [])
       else (floatOp op a.toFloat b).map (fun v => (v, []))) := by
  simp only [binop, beq_iff_eq, vbool, Except.map]

theorem C01_mixed_float_int (op : Op) (a : Float) (b : Int64) :
    binop M op (.float a) (.int b) =
      (if op = .and then .ok (.bool ((Value.float a).truthy && (Value.int b).truthy), [])
       else if op = .or then .ok (.bool ((Value.float a).truthy || (Value.int b).truthy), [])
       else (floatOp op a b.toFloat).map (fun v => (v, []))) := by
  simp only [binop, beq_iff_eq, vbool, Except.map]

theorem C01_float_float (op : Op) (a b : Float) (h1 : op ≠ .and) (h2 : op ≠ .or) :
    binop M op (.float a) (.float b) = (floatOp op a b).map (fun v => (v, [])) := by
  simp [binop, h1, h2]

theorem C01_float_arith_is_float (op : Op) (a b : Float) (v : Value)
    (hop : op = .add ∨ op = .sub ∨ op = .mul ∨ op = .div)
    (h : floatOp op a b = .ok v) : v.isType .FLOAT = true := by
  rcases hop with rfl | rfl | rfl | rfl <;> simp [floatOp, err] at h
  · subst h; rfl
  · subst h; rfl
  · subst h; rfl
  · split at h <;> simp at h
    subst h; rfl

/-- comparisons between numbers are numeric whatever the mix of int and float -/
theorem C01_eq_numeric_cross (a : Int64) (b : Float) :
    binop M .equal (.int a) (.float b) = .ok (.bool (a.toFloat == b), []) ∧
    binop M .equal (.float b) (.int a) = .ok (.bool (b == a.toFloat), []) ∧
    binop M .notEqual (.int a) (.float b) = .ok (.bool (a.toFloat != b), []) ∧
    binop M .less (.int a) (.float b) = .ok (.bool (a.toFloat < b), []) :=
  ⟨rfl, rfl, rfl, rfl⟩

theorem C01_div_zero_int (a : Int64) : binop M .div (.int a) (.int 0) = .error (.error "div0") := rfl

theorem C01_mod_zero_int (a : Int64) : binop M .mod (.int a) (.int 0) = .error .panic := rfl

theorem C01_div_zero_float (a : Float) (b : Float) (hb : (b == 0) = true) :
    floatOp .div a b = .error (.error "div0") := by
  simp [floatOp, err, hb]

theorem C01_div_mod_zero_never_value (op : Op) (hop : op = .div ∨ op = .mod) (a : Int64) (v : Value) (st' : Str) :
    binop M op (.int a) (.int 0) ≠ .ok (v, st') := by
  rcases hop with rfl | rfl <;> nofun

theorem C01_string_concat (a b : Str) : binop M .add (.str a) (.str b) = .ok (.str (a ++ b), []) := rfl

theorem C01_string_order (a b : Str) :
    binop M .less (.str a) (.str b) = .ok (.bool (Str.lt a b), []) ∧
    binop M .lessEqual (.str a) (.str b) = .ok (.bool (Str.le a b), []) ∧
    binop M .greater (.str a) (.str b) = .ok (.bool (Str.lt b a), []) ∧
    binop M .greaterEqual (.str a) (.str b) = .ok (.bool (Str.le b a), []) ∧
    binop M .equal (.str a) (.str b) = .ok (.bool (a == b), []) ∧
    binop M .notEqual (.str a) (.str b) = .ok (.bool (a != b), []) :=
  ⟨rfl, rfl, rfl, rfl, rfl, rfl⟩

/-- `Str.lt` is the lexicographic order on code points: irreflexive … -/
theorem Str_lt_irrefl (a : Str) : Str.lt a a = false := Str.lt_irrefl a

/-- … and total -/
theorem Str_lt_total (a b : Str) : Str.lt a b = true ∨ Str.lt b a = true ∨ a = b := Str.lt_total a b

theorem binop_nil (op : Op) (l r : Value) (hand : op ≠ .and) (hor : op ≠ .or) (h : l = .nil ∨ r = .nil) :
    binop M op l r = .error .panic := by
  rcases h with rfl | rfl
  · simp [binop, hand, hor]
  · cases l <;> simp [binop, hand, hor]

/-- Outside the tables - number × number, string × string or regexp, boolean × boolean - an operator other
    than `&&`, `||`, `in` fails, and this is how.  The proof follows the arms of the dispatch: each of the
    first eight is for operands the hypotheses exclude. -/
theorem binop_no_table (op : Op) (l r : Value) (hand : op ≠ .and) (hor : op ≠ .or) (hin : op ≠ .arrayIn)
    (hl : l ≠ .nil) (hr : r ≠ .nil)
    (hnum : ¬ ((l.isType .INTEGER ∨ l.isType .FLOAT) ∧ (r.isType .INTEGER ∨ r.isType .FLOAT)))
    (hs : ¬ (l.isType .STRING ∧ (r.isType .STRING ∨ r.isType .REGEXP)))
    (hb : ¬ (l.isType .BOOLEAN ∧ r.isType .BOOLEAN)) :
    binop M op l r = .error (.error (if l.type? = r.type? then "unknownOperator" else "typeMismatch")) := by
  unfold binop
  simp only [beq_eq_false_iff_ne.mpr hand, beq_eq_false_iff_ne.mpr hor, beq_eq_false_iff_ne.mpr hin,
    Bool.false_eq_true, if_false]
  split
  · exact absurd rfl hl
  · exact absurd rfl hr
  · exact absurd ⟨.inl rfl, .inl rfl⟩ hnum
  · exact absurd ⟨.inr rfl, .inr rfl⟩ hnum
  · exact absurd ⟨.inr rfl, .inl rfl⟩ hnum
  · exact absurd ⟨.inl rfl, .inr rfl⟩ hnum
  · exact absurd ⟨rfl, .inl rfl⟩ hs
  · exact absurd ⟨rfl, .inr rfl⟩ hs
  · split
    · exact absurd ⟨rfl, rfl⟩ hb
    · by_cases h : l.type? = r.type? <;> simp [h, err, Except.map]

/-- comparing values of different non-numeric types is an error, never a value -/
theorem C01_eq_unlike_is_error (op : Op) (hop : op = .equal ∨ op = .notEqual) (l r : Value)
    (hl : ¬ (l.isType .INTEGER ∨ l.isType .FLOAT)) (hlr : l.type? ≠ r.type?)
    (hlv : l.type?.isSome) (hrv : r.type?.isSome)
    (hsr : ¬ (l.isType .STRING ∧ r.isType .REGEXP)) :
    binop M op l r = .error (.error "typeMismatch") := by
  have hty : ∀ t, ¬ (l.isType t ∧ r.isType t) := fun t h => by
    simp only [Value.isType, beq_iff_eq] at h
    exact hlr (h.1.trans h.2.symm)
  rcases hop with rfl | rfl <;>
    rw [binop_no_table M _ l r (by decide) (by decide) (by decide) (by rintro rfl; cases hlv)
      (by rintro rfl; cases hrv) (fun h => hl h.1)
      (fun h => h.2.elim (fun h2 => hty _ ⟨h.1, h2⟩) (fun h2 => hsr ⟨h.1, h2⟩)) (hty _), if_neg hlr]

theorem C01_in_array (l : Value) (els : List Value) (hl : l ≠ .nil) :
    binop M .arrayIn l (.array els) = .ok (.bool (els.any (fun e => sameTypeAndText l e)), []) := by
  cases l
  case nil => exact absurd rfl hl
  all_goals rfl

/-- `in` with a right operand that is neither an array nor (for a string on the left) a string is an error -/
theorem C01_in_needs_array (l r : Value) (v : Value) (st' : Str)
    (hr : ¬ r.isType .ARRAY) (hs : ¬ (l.isType .STRING ∧ r.isType .STRING)) :
    binop M .arrayIn l r ≠ .ok (v, st') := by
  unfold binop
  simp only [show (Op.arrayIn == Op.and) = false from rfl, show (Op.arrayIn == Op.or) = false from rfl,
    Bool.false_eq_true, if_false]
  -- arm by arm: nil panics, the tables of numbers have no `in`, string × string is excluded …
  split
  · nofun
  · nofun
  · nofun
  · nofun
  · nofun
  · nofun
  · exact absurd ⟨rfl, rfl⟩ hs
  · nofun
  -- … and the last arm, where `in` is looked at, wants an array on the right
  · simp only [BEq.rfl, if_true]
    split
    · exact absurd rfl hr
    · nofun

theorem C01_in_substring (a b : Str) :
    binop M .arrayIn (.str a) (.str b) = .ok (.bool (Str.contains b a), []) :=
  rfl

/-- `Str.contains` is the substring relation -/
theorem Str_contains_iff (s sub : Str) :
    Str.contains s sub = true ↔ ∃ pre post, s = pre ++ sub ++ post :=
  (Str.contains_iff s sub).trans (exists_congr fun _ => exists_congr fun _ => eq_comm)

/-- operand types an operator does not accept end the run with an error - they never produce a
    value: every operator other than `&&`, `||` and `in`, applied to a pair of operands that is
    not number×number, string×string, string×regexp or boolean×boolean, is an error. -/
theorem C01_unsupported_types_error (op : Op) (l r : Value)
    (hand : op ≠ .and) (hor : op ≠ .or) (hin : op ≠ .arrayIn)
    (hnum : ¬ ((l.isType .INTEGER ∨ l.isType .FLOAT) ∧ (r.isType .INTEGER ∨ r.isType .FLOAT)))
    (hs : ¬ (l.isType .STRING ∧ (r.isType .STRING ∨ r.isType .REGEXP)))
    (hb : ¬ (l.isType .BOOLEAN ∧ r.isType .BOOLEAN)) :
    ∃ e, binop M op l r = .error e := by
  by_cases hn : l = .nil ∨ r = .nil
  · exact ⟨_, binop_nil M op l r hand hor hn⟩
  · exact ⟨_, binop_no_table M op l r hand hor hin (fun h => hn (.inl h)) (fun h => hn (.inr h)) hnum hs hb⟩

theorem C01_minus (v : Value) :
    minusOp v = (match v with
      | .int i => .ok (.int (-i)) | .float f => .ok (.float (-f)) | _ => .error (.error "negType")) := by
  cases v <;> rfl

theorem C01_sqrt_is_float (v r : Value) (h : sqrtOp v = .ok r) : r.isType .FLOAT = true := by
  cases v <;> simp [sqrtOp, err] at h <;> subst h <;> rfl

theorem C01_range (a b : Int64) (h : a ≤ b) (hs : (b.toInt - a.toInt + 1).toNat ≤ maxRange) :
    rangeOp (.int a) (.int b) =
      .ok (.array ((List.range (b.toInt - a.toInt + 1).toNat).map (fun k => .int (a + Int64.ofNat k)))) := by
  simp [rangeOp, Int64.not_lt.mpr h]
  omega

theorem C01_range_errors (lo hi : Value) (v : Value)
    (h : ¬ (lo.isType .INTEGER ∧ hi.isType .INTEGER)) : rangeOp lo hi ≠ .ok v := by
  unfold rangeOp
  split
  · exact absurd ⟨rfl, rfl⟩ h
  · nofun
  · nofun

/-- non-vacuity: concrete instances of the laws above -/
example : binop M .add (.int 2) (.int 3) = .ok (.int 5, []) := C01_int_add M 2 3
example : binop M .div (.int 7) (.int 0) = .error (.error "div0") := C01_div_zero_int M 7
example : Str.contains "hello".toList "ell".toList = true := by decide

open EvalFilter.Exec in
/-- **Compiler + VM correctness for expressions.**  For every expression of the value-producing fragment
    (literals, identifiers/fields, prefix and binary operators incl. `~=` `in` `..` `.`, index, array
    literals, hash literals written in the compiler's key order, the ternary, calls of built-in and host
    functions - any size, any nesting), the code the compiler emits for it, placed anywhere
    in a program that fits the 16-bit operand space, computes exactly `evalE`: operands and arguments left
    to right, then the operator of the laws above or the function (whose marker and output are written);
    the first error ends the run with that error; on success the value is on top of the stack and the VM
    continues right behind the code.  (`Correct` asks that the semantics defines the outcome: a call of a
    user-defined function inside an expression, or of a function that yields no value, is where it does not.) -/
theorem C01_expr_correct (e : Expr) (base : Nat) (cst : Compiler.CState) (r : List Instr × Compiler.CState)
    (hp : pureE e = true) (hc : Compiler.compileExpr e base cst = .ok r) (M : Machine) (obj : HostVal) (code : Bytes)
    (ctx : Ctx M code) (hat : CodeAt code base r.1) (hpool : ∃ ex, M.consts = r.2.consts ++ ex) :
    Correct M obj code e base :=
  Correct_iff.2 (expr_runs e hp hc ctx hat hpool obj)

open EvalFilter.Exec in
/-- … and with no side condition at all for expressions without calls: the semantics defines an outcome for
    every one of them, in every state -/
theorem C01_expr_correct_callfree (e : Expr) (base : Nat) (cst : Compiler.CState) (r : List Instr × Compiler.CState)
    (hp : pureE e = true) (hcf : callFree e = true) (hc : Compiler.compileExpr e base cst = .ok r) (M : Machine) (obj : HostVal) (code : Bytes)
    (ctx : Ctx M code) (hat : CodeAt code base r.1) (hpool : ∃ ex, M.consts = r.2.consts ++ ex)
    (stack : List Value) (env : Env) (out : Str) (polls depth : Nat) :
    ∃ n k, ∀ fuel,
      loop M obj code (fuel + n) base stack ⟨env, out, polls, depth⟩ =
        after M obj code fuel (base + e.size) stack env (polls + k) depth (evalE M obj env e out) :=
  C01_expr_correct e base cst r hp hc M obj code ctx hat hpool stack env out polls depth (evalE_defined M obj env e out hcf)

open EvalFilter.Exec in
/-- … and for the script `return <expression>;` as `Prepare(NoOptimize)` compiles it: a run ends with
    exactly the value - or exactly the error - of the big-step semantics, having written exactly its
    output, for every host object, environment and host-function table. -/
theorem C01_return_expr_correct (e : Expr) (hp : pureE e = true) (c : Compiler.Compiled)
    (hc : Compiler.compileProgram [.ret e] = .ok c) (fns : List (Str × FnImpl)) (obj : HostVal) (env : Env) (out : Str)
    (polls depth : Nat)
    (hdef : (evalE (Api.newMachine c false fns (fun _ => false)) obj env e out).1 ≠ .error undefErr) :
    ∃ n k, ∀ fuel,
      run (Api.newMachine c false fns (fun _ => false)) obj (fuel + n) ⟨env, out, polls, depth⟩ =
        (match evalE (Api.newMachine c false fns (fun _ => false)) obj env e out with
         | (.ok v, o) => (.ok v, ⟨env, o, polls + k, depth⟩)
         | (.error x, o) => (.error x, ⟨env, o, polls + k, depth⟩)) :=
  return_expr_correct e hp c hc fns obj env out polls depth hdef

open EvalFilter.Exec in
theorem C01_return_expr_correct_callfree (e : Expr) (hp : pureE e = true) (hcf : callFree e = true) (c : Compiler.Compiled)
    (hc : Compiler.compileProgram [.ret e] = .ok c) (fns : List (Str × FnImpl)) (obj : HostVal) (env : Env) (out : Str)
    (polls depth : Nat) :
    ∃ n k, ∀ fuel,
      run (Api.newMachine c false fns (fun _ => false)) obj (fuel + n) ⟨env, out, polls, depth⟩ =
        (match evalE (Api.newMachine c false fns (fun _ => false)) obj env e out with
         | (.ok v, o) => (.ok v, ⟨env, o, polls + k, depth⟩)
         | (.error x, o) => (.error x, ⟨env, o, polls + k, depth⟩)) :=
  return_expr_correct e hp c hc fns obj env out polls depth (evalE_defined _ obj env e out hcf)

end EvalFilter.Props.C01
