/-
  C18 — Every accepted script compiles to well-formed machine code.

  `Model/WF.lean` is a byte-code verifier (decode, jump targets, constant references, function
  bodies end in a return, stack-depth certificate).  The harness runs it on the bytes the prepared
  evaluator really holds (main body and every function body, before and after optimisation) for every
  accepted case, and on the model compiler's output (compared byte for byte with the real one).

  Proved here, for ALL programs:
    * the verifier's decoder agrees with the emitter: decoding what `emit` wrote gives back the
      instructions, with operands truncated to 16 bits exactly as `emit` truncates them;
    * every decoded instruction sits where the VM's fetch/decode finds it, with complete operands,
      and is followed by a decoded instruction or the end of the body;
    * a program accepted by the verifier satisfies the declarative static conditions, and a machine
      satisfying them NEVER ends a run with "unknown opcode", "instruction pointer out of bounds" or
      "bad constant" - for every object, state, step budget and call depth (the instruction pointer
      only ever stands on instruction starts);
    * a program accepted by the verifier carries a valid stack-depth certificate, and a machine whose
      bodies carry one NEVER ends a run in a stack underflow, given that called functions return a
      value (the property's proviso) - induction over the VM loop with the invariant "the
      instruction pointer is on a certified instruction start and the stack is at least as deep as
      certified";
    * for ALL scripts: emitted sizes, closed jumps, constant references, function bodies end in a
      return; a script prepared with NoOptimize never hits a decode error, and neither does the optimised
      program when its optimisation validates (C03).
  Not proved: that the optimizer preserves these conditions, and that the compiler's output always
  carries a valid stack certificate (it does not: known finding KF-25); both are checked by running
  the verifier on the real bytes of every generated program.
-/
import EvalFilter.Proofs.CompStatic
import EvalFilter.Proofs.WFStack
import EvalFilter.Props.C03

namespace EvalFilter.Props.C18
open EvalFilter.VM EvalFilter.WF

/-- decoding the bytes `emit` produced for a list of instructions gives the instructions back (operands
    truncated to 16 bits, as `emit` truncates them: `WF.stored`) -/
theorem C18_decode_encode (is : List Instr) (off : Nat) :
    decode off (encodeAll is) = some (withOffsets off is) := decode_encodeAll is off

/-- the instruction lengths the verifier, the VM and the emitter use are one table, the one in
    code/code.go (regenerated on this run) -/
theorem C18_lengths_are_the_code : Generated.opcodes = Spec.Tables.opcodes := Props.Tables.gen_opcodes

/-- every decoded instruction is where the VM will fetch it, complete, and followed by another or by the end -/
theorem C18_decoded_instructions (code : Bytes) (instrs : List (Nat × Instr)) (hd : decode 0 code = some instrs)
    (o : Nat) (i : Instr) (hmem : (o, i) ∈ instrs) :
    o + i.size ≤ code.length ∧ code.getD o 0 = UInt8.ofNat i.op.toNat ∧
    (i.op.length = 3 → i.arg = decode16 (code.getD (o + 1) 0) (code.getD (o + 2) 0)) ∧
    (o + i.size = code.length ∨ ∃ j, (o + i.size, j) ∈ instrs) := by
  obtain ⟨hf, e⟩ := decode_spec hd hmem
  exact ⟨hf.fits, by rw [← hf.op, UInt8.ofNat_toNat], fun h => by rw [hf.arg, if_pos h], e⟩

theorem C18_verifier_sound (cs : List Bool) (main : Bytes) (funcs : List Bytes) (h : check cs main funcs = none) :
    (∃ instrs, StaticOk cs.length main instrs) ∧ ∀ f, f ∈ funcs → ∃ instrs, StaticOk cs.length f instrs :=
  have ⟨⟨mi, _, hm, _⟩, hf⟩ := check_ok cs main funcs h
  ⟨⟨mi, hm⟩, fun f hm => have ⟨fi, _, hs, _⟩ := hf f hm; ⟨fi, hs⟩⟩

/-- A machine that passes the verifier never ends a run with an unknown opcode, an instruction pointer
    out of bounds or a bad constant index: for every object, state, step budget, at any call depth. -/
theorem C18_no_decode_errors (M : Machine) (h : checkMachine M = none) (obj : HostVal) (fuel : Nat) (st : RunSt) :
    (run M obj fuel st).1 ≠ err "unknownOpcode" ∧ (run M obj fuel st).1 ≠ err "ipOOB" ∧
    (run M obj fuel st).1 ≠ err "badConstant" := by
  simpa only [internalStatic, not_or] using run_static M h obj fuel st

/-- the same from any instruction start of any verified body, with any stack (this is what makes the
    induction go through: the instruction pointer never leaves the set of instruction starts) -/
theorem C18_ip_stays_on_instruction_starts (M : Machine) (obj : HostVal)
    (hfuncs : ∀ uf, uf ∈ M.funcs → ∃ instrs, StaticOk M.consts.length uf.code instrs)
    (fuel : Nat) (code : Bytes) (instrs : List (Nat × Instr)) (hs : StaticOk M.consts.length code instrs)
    (ip : Nat) (stack : List Value) (st : RunSt) (hip : ip = code.length ∨ ∃ i, (ip, i) ∈ instrs) :
    ¬ internalStatic (loop M obj code fuel ip stack st).1 :=
  loop_static M obj hfuncs fuel code instrs hs ip stack st hip

/-- operators and helpers never report one of the machine's internal error classes -/
theorem C18_operator_errors_are_not_internal (M : Machine) (op : Op) (l r : Value) (e : Err)
    (h : binop M op l r = .error e) :
    e ≠ .error "unknownOpcode" ∧ e ≠ .error "ipOOB" ∧ e ≠ .error "badConstant" ∧ e ≠ .error "underflow" :=
  (binop_err h).not_internal

/-- the code emitted for any tree has exactly the size the compiler's label arithmetic assumes -/
theorem C18_emitted_size (e : Expr) (base : Nat) (st : Compiler.CState) (r : List Instr × Compiler.CState)
    (h : Compiler.compileExpr e base st = .ok r) : codeSize r.1 = e.size := Compiler.compileExpr_size h

/-- every jump emitted for any tree, at any offset, lands on an instruction start of that tree's code -/
theorem C18_jumps_closed (e : Expr) (base : Nat) (st : Compiler.CState) (r : List Instr × Compiler.CState)
    (h : Compiler.compileExpr e base st = .ok r) : Compiler.Closed base r.1 := Compiler.compileExpr_closed e base st r h

/-- **For every accepted script** the compiled program - main body and every function body - decodes
    completely, jumps only to instruction starts of the same body, references only existing constants,
    and every function body ends in a return. -/
theorem C18_compile_wf (prog : Program) (c : Compiler.Compiled) (h : Compiler.compileProgram prog = .ok c) :
    StaticOk c.consts.length (encodeAll c.main) (withOffsets 0 c.main) ∧
    ∀ f, f ∈ c.funcs → StaticOk c.consts.length (encodeAll f.code) (withOffsets 0 f.code) ∧ Compiler.EndsRet f.code :=
  compileProgram_static prog c h

/-- **For every script prepared with NoOptimize**, no run ever ends with an unknown opcode, an instruction
    pointer out of bounds or a bad constant. -/
theorem C18_unoptimized_no_decode_errors (script : List Char) (env : Env) (fns : List (Str × FnImpl))
    (done : Nat → Bool) (p : Api.Prepared) (env' : Env) (h : Api.prepare script false env fns done = .ok (p, env'))
    (obj : HostVal) (fuel : Nat) (st : RunSt) :
    (run p.machine obj fuel st).1 ≠ err "unknownOpcode" ∧ (run p.machine obj fuel st).1 ≠ err "ipOOB" ∧
    (run p.machine obj fuel st).1 ≠ err "badConstant" := by
  simpa only [internalStatic, not_or] using prepared_unoptimized_static script env fns done p env' h obj fuel st

open EvalFilter.Compiler in
/-- **… and neither does the OPTIMISED program, when its optimisation validates**: a run of the optimised
    program that ended in an unknown opcode, an instruction pointer out of bounds or a bad constant would be
    matched by a run of the unoptimised program with the same result (C03) - which never happens. -/
theorem C18_optimized_no_decode_errors (prog : Program) (c : Compiled) (hc : compileProgram prog = .ok c)
    (hv : C03.validated c = true) (fns : List (Str × FnImpl)) (obj : HostVal) (fuel : Nat) (st : RunSt) :
    (run (Api.newMachine c true fns (fun _ => false)) obj fuel st).1 ≠ err "unknownOpcode" ∧
    (run (Api.newMachine c true fns (fun _ => false)) obj fuel st).1 ≠ err "ipOOB" ∧
    (run (Api.newMachine c true fns (fun _ => false)) obj fuel st).1 ≠ err "badConstant" := by
  have key : ¬ internalStatic (run (Api.newMachine c true fns (fun _ => false)) obj fuel st).1 := by
    intro hi
    have hend : (run (Api.newMachine c true fns (fun _ => false)) obj fuel st).1 ≠ .error .outOfFuel := by
      rcases hi with h | h | h <;> (rw [h]; simp [err])
    obtain ⟨f, h1, _, _⟩ := C03.C03_optimizer_adds_no_finished_runs c fns obj hv fuel st st ⟨rfl, rfl, rfl⟩ hend
    have := compiled_unoptimized_static prog c hc fns (fun _ => false) obj f st
    rw [h1] at this
    exact this hi
  simpa only [internalStatic, not_or] using key

/-- one instruction: with the certified depth on the stack (or, right after an exhausted
    OpIterationNext, one less with `false` on top) the VM does not report an underflow, and continues
    at a successor the certificate covers with the depth it promises there -/
theorem C18_step_stack (M : Machine) (obj : HostVal) (codeLen : Nat) (runBody : Bytes → RunSt → Res × RunSt)
    (i : Instr) (next : Nat) (stack : List Value) (st : RunSt) (a : Bool) (d : Nat)
    (ha : a = true → i.op = .jumpIfFalse) (hd : Depth a d stack) (hp : pops i ≤ d) (hnv : NoVoidFns M)
    (hrunV : ∀ uf, uf ∈ M.funcs → ∀ s v, (runBody uf.code s).1 = .ok v → v.isType .VOID = false)
    (hrunU : ∀ uf, uf ∈ M.funcs → ∀ s, (runBody uf.code s).1 ≠ err "underflow") :
    StackStep i next a d (step M obj codeLen runBody i.op.toNat i.arg next stack st) :=
  step_stack M obj codeLen runBody i next stack st a d ha hd hp
    ⟨hnv, fun v ⟨uf, s, hm, hv⟩ => hrunV uf hm s v hv.symm⟩ hrunU

theorem C18_verifier_stack_sound (cs : List Bool) (main : Bytes) (funcs : List Bytes) (h : check cs main funcs = none) :
    (∃ instrs cert, StaticOk cs.length main instrs ∧ StackOk main instrs cert) ∧
    ∀ f, f ∈ funcs → ∃ instrs cert, StaticOk cs.length f instrs ∧ StackOk f instrs cert :=
  check_ok cs main funcs h

/-- **A machine that passes the verifier never ends a run in a stack underflow, given that called
    functions return a value** (the property's proviso in the strong form `CallsReturnValues`, which asks it of
    every function of the table whether called or not: a table with `print` does not meet it): every object,
    state, step budget and call depth. -/
theorem C18_no_underflow (M : Machine) (h : checkMachine M = none) (obj : HostVal)
    (hcv : CallsReturnValues M obj) (fuel : Nat) (st : RunSt) : (run M obj fuel st).1 ≠ err "underflow" := by
  obtain ⟨⟨mi, mc, hm, hmk⟩, hf⟩ := check_ok _ _ _ h
  simp only [List.length_map] at hm hf
  have hb : BodiesOk M := fun uf huf => hf uf.code (List.mem_map.mpr ⟨uf, huf, rfl⟩)
  unfold run
  split
  · simp [err]
  · simp only [finish]
    exact loop_stack M obj hb hcv fuel M.main mi mc hm hmk 0 [] st (Inv_start hm hmk)

/-- the verifier is not trivially permissive: it rejects a jump into the middle of an instruction, a constant
    index past the pool, a function body that falls off its end, a pop from an empty stack, an unknown opcode
    (43 is the first byte that is none) and a cut operand - and accepts `OpConstant 0; OpReturn` -/
theorem C18_rejects :
    (checkBody [true] ⟨encodeAll [⟨.jump, 4⟩, ⟨.constant, 0⟩, ⟨.return, 0⟩], false⟩).isSome = true ∧
    (checkBody [true] ⟨encodeAll [⟨.constant, 1⟩, ⟨.return, 0⟩], false⟩).isSome = true ∧
    (checkBody [true] ⟨encodeAll [⟨.constant, 0⟩, ⟨.set, 0⟩], true⟩).isSome = true ∧
    (checkBody [true] ⟨encodeAll [⟨.add, 0⟩, ⟨.return, 0⟩], false⟩).isSome = true ∧
    (checkBody [true] ⟨[43], false⟩).isSome = true ∧
    (checkBody [true] ⟨[0, 0], false⟩).isSome = true ∧
    (checkBody [true] ⟨encodeAll [⟨.constant, 0⟩, ⟨.return, 0⟩], true⟩).isSome = false := by
  simp only [checkBody, decode_encodeAll, decode]; decide

end EvalFilter.Props.C18
