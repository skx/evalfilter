/-
  C11 — Evaluators can be used from many goroutines.

  `Run` is `Lock; Execute; Unlock` on the evaluator's own mutex (checked on the code:
  `apiShapes`), and the only package-level variable written after initialisation is
  the regular-expression cache, always under its own lock (checked on the code:
  `packageVarAccesses`).  Given that, the protocol is modelled as a transition
  system - N threads, each acquiring the lock, applying one state transformer
  (its `Execute`) to the shared evaluator state and releasing - and every
  complete interleaving is shown to produce exactly the final state of the sequential
  execution in lock-acquisition order.

  The Go memory model (that lock/unlock really order the memory accesses) is
  runtime behaviour outside the model; the harness' race stream (Go race detector)
  is supporting evidence for it.
-/
import EvalFilter.Props.Tables

namespace EvalFilter.Props.C11

theorem C11_run_holds_lock : Generated.apiShapes = Spec.Tables.apiShapes := Props.Tables.gen_apiShapes

/-- every use of a package-level variable is a read of a variable never written after `init`, or
    happens under the mutex that guards that variable -/
theorem C11_package_vars_guarded :
    ∀ a ∈ Generated.packageVarAccesses, Spec.Tables.accessOk a = true := by decide +kernel

/-- the check is not vacuous: an unguarded write would be rejected -/
theorem C11_unguarded_write_rejected :
    Spec.Tables.accessOk ("environment.regCache", "environment:fnMatch", "write", "-", "other") = false ∧
    Spec.Tables.accessOk ("environment.regCache", "environment:fnMatch", "read", "-", "other") = false ∧
    Spec.Tables.accessOk ("vm.True", "vm:*VM.Run", "write", "-", "other") = false := by decide +kernel

/-- where a thread is: before `Lock`, inside the critical section (lock held, `Execute` not yet
    applied), after `Execute` (lock still held), or finished with its result -/
inductive Pc (R : Type) | idle | locked | ran (r : R) | done (r : R)

structure Sys (S R : Type) where
  shared : S
  holder : Option Nat
  pcs : List (Pc R)
  /-- thread ids in the order in which they acquired the lock -/
  order : List Nat

/-- thread `i` runs `f i : S → R × S` (its `Execute` on the shared evaluator, `R` what it returns); the three steps
    are the lines Run/0, Run/1, Run/2 of `apiShapes` -/
inductive Step {S R : Type} (f : Nat → S → R × S) : Sys S R → Sys S R → Prop
  | lock (s : Sys S R) (i : Nat) (hi : i < s.pcs.length) (hidle : s.pcs[i]? = some .idle) (hfree : s.holder = none) :
      Step f s { s with holder := some i, pcs := s.pcs.set i .locked, order := s.order ++ [i] }
  | exec (s : Sys S R) (i : Nat) (hl : s.pcs[i]? = some .locked) (hh : s.holder = some i) :
      Step f s { s with shared := (f i s.shared).2, pcs := s.pcs.set i (.ran (f i s.shared).1) }
  | unlock (s : Sys S R) (i : Nat) (r : R) (hr : s.pcs[i]? = some (.ran r)) (hh : s.holder = some i) :
      Step f s { s with holder := none, pcs := s.pcs.set i (.done r) }

inductive Steps {S R : Type} (f : Nat → S → R × S) : Sys S R → Sys S R → Prop
  | refl (s) : Steps f s s
  | tail {a b c} : Steps f a b → Step f b c → Steps f a c

/-- sequential execution of the threads in `order`, from `s0` -/
def seqRun {S R : Type} (f : Nat → S → R × S) (s0 : S) : List Nat → S
  | [] => s0
  | i :: rest => seqRun f (f i s0).2 rest

def seqResult {S R : Type} (f : Nat → S → R × S) (s0 : S) : List Nat → Nat → Option R
  | [], _ => none
  | i :: rest, j => if i = j then some (f i s0).1 else seqResult f (f i s0).2 rest j

theorem seqRun_append {S R : Type} (f : Nat → S → R × S) (s0 : S) (xs : List Nat) (i : Nat) :
    seqRun f s0 (xs ++ [i]) = (f i (seqRun f s0 xs)).2 := by
  induction xs generalizing s0 with
  | nil => rfl
  | cons x xs ih => simp [seqRun, ih]

/-- The invariant of the protocol: either the holder is inside its critical section and has not applied its
    `Execute` yet (it is then the last one in `order`), or everything in `order` has been applied. -/
structure Inv {S R : Type} (f : Nat → S → R × S) (s0 : S) (s : Sys S R) : Prop where
  /-- mutual exclusion: only the holder is inside the critical section -/
  excl : ∀ i : Nat, (s.pcs[i]? = some Pc.locked ∨ ∃ r, s.pcs[i]? = some (Pc.ran r)) → s.holder = some i
  /-- the shared state is the sequential run of the threads that have executed, in lock order -/
  state : (∃ i pre, s.holder = some i ∧ s.pcs[i]? = some Pc.locked ∧ s.order = pre ++ [i] ∧ s.shared = seqRun f s0 pre) ∨
          ((∀ i, s.holder = some i → s.pcs[i]? ≠ some Pc.locked) ∧ s.shared = seqRun f s0 s.order)

theorem inv_init {S R : Type} (f : Nat → S → R × S) (s0 : S) (n : Nat) :
    Inv f s0 { shared := s0, holder := none, pcs := List.replicate n .idle, order := [] } := by
  refine ⟨fun i h => ?_, .inr ⟨nofun, rfl⟩⟩
  rcases h with h | ⟨r, h⟩ <;>
  · simp only [List.getElem?_replicate] at h
    split at h <;> simp at h

theorem inv_step {S R : Type} (f : Nat → S → R × S) (s0 : S) (s s' : Sys S R) (hinv : Inv f s0 s) (hs : Step f s s') :
    Inv f s0 s' := by
  cases hs with
  | lock i hi hidle hfree =>
    constructor
    · intro j h
      simp only [List.getElem?_set] at h
      by_cases hij : i = j
      · subst hij; rfl
      · simp only [hij, ↓reduceIte] at h
        have := hinv.excl j h
        rw [hfree] at this; cases this
    · rcases hinv.state with ⟨k, _, hk, _⟩ | ⟨_, hsh⟩
      · rw [hfree] at hk; cases hk
      · exact .inl ⟨i, s.order, rfl, by simp [hi], rfl, hsh⟩
  | exec i hl hh =>
    have hi : i < s.pcs.length := (List.getElem?_eq_some_iff.mp hl).1
    constructor
    · intro j h
      simp only [List.getElem?_set] at h
      by_cases hij : i = j
      · subst hij; exact hh
      · simp only [hij, ↓reduceIte] at h
        exact hinv.excl j h
    · rcases hinv.state with ⟨k, pre, hk, _, hord, hsh⟩ | ⟨hno, _⟩
      · cases hk.symm.trans hh
        refine .inr ⟨fun j hj => ?_, ?_⟩
        · cases hh.symm.trans hj
          simp [hi]
        · show (f i s.shared).2 = seqRun f s0 s.order
          rw [hord, seqRun_append, hsh]
      · exact absurd hl (hno i hh)
  | unlock i r hr hh =>
    have hi : i < s.pcs.length := (List.getElem?_eq_some_iff.mp hr).1
    constructor
    · intro j h
      simp only [List.getElem?_set] at h
      by_cases hij : i = j
      · subst hij
        simp [hi] at h
      · simp only [hij, ↓reduceIte] at h
        have := hinv.excl j h
        rw [hh] at this; cases this; exact absurd rfl hij
    · rcases hinv.state with ⟨k, _, hk, hkl, _⟩ | ⟨_, hsh⟩
      · cases hk.symm.trans hh
        rw [hr] at hkl; cases hkl
      · exact .inr ⟨nofun, hsh⟩

theorem inv_steps {S R : Type} (f : Nat → S → R × S) (s0 : S) (s s' : Sys S R) (hinv : Inv f s0 s) (hs : Steps f s s') :
    Inv f s0 s' := by
  induction hs with
  | refl => exact hinv
  | tail _ hstep ih => exact inv_step f s0 _ _ ih hstep

/-- Mutual exclusion: in every reachable state at most one thread is inside `Execute`. -/
theorem C11_mutual_exclusion {S R : Type} (f : Nat → S → R × S) (s0 : S) (n : Nat) (s : Sys S R)
    (h : Steps f { shared := s0, holder := none, pcs := List.replicate n .idle, order := [] } s)
    (i j : Nat) (hi : s.pcs[i]? = some .locked ∨ ∃ r, s.pcs[i]? = some (.ran r))
    (hj : s.pcs[j]? = some .locked ∨ ∃ r, s.pcs[j]? = some (.ran r)) : i = j := by
  have inv := inv_steps f s0 _ _ (inv_init f s0 n) h
  have a := inv.excl i hi
  have b := inv.excl j hj
  rw [a] at b; cases b; rfl

/-- Serializability: whenever no thread is inside its critical section (in particular when all
    have finished), the shared evaluator state is exactly the state the sequential execution of the
    `Execute`s in lock-acquisition order produces - no update is lost, whatever the interleaving. -/
theorem C11_serializable {S R : Type} (f : Nat → S → R × S) (s0 : S) (n : Nat) (s : Sys S R)
    (h : Steps f { shared := s0, holder := none, pcs := List.replicate n .idle, order := [] } s)
    (hquiet : s.holder = none) : s.shared = seqRun f s0 s.order := by
  have inv := inv_steps f s0 _ _ (inv_init f s0 n) h
  rcases inv.state with ⟨k, _, hk, _⟩ | ⟨_, hsh⟩
  · rw [hquiet] at hk; cases hk
  · exact hsh

/-- a script that increments a persistent counter on each run never loses an update: the sequential run of
    `order` advances the counter by the number of runs in it -/
theorem C11_no_lost_update (order : List Nat) (c0 : Nat) :
    seqRun (fun _ (c : Nat) => ((), c + 1)) c0 order = c0 + order.length := by
  induction order generalizing c0 with
  | nil => rfl
  | cons i rest ih => simp [seqRun, ih]; omega

end EvalFilter.Props.C11
