/-
  C09 — A deadline or cancellation stops any script promptly.

  The context is modelled as a poll oracle `done : Nat → Bool` indexed by the number
  of polls made so far.  The loop polls once before every instruction, at every
  call depth (a user-defined function runs through the same loop), so "promptly"
  is: no instruction executes after the poll that saw the cancellation.
  Wall-clock latency (how long one instruction takes, scheduling) is runtime
  behaviour the model cannot exhibit; the harness' S-cancel stream observes the
  real VM with a context that reports cancellation at its k-th `Done()` call.
-/
import EvalFilter.Proofs.VMFrame
import EvalFilter.Model.Api

namespace EvalFilter.Props.C09
open EvalFilter.VM

/-- If the context reports cancellation from its k-th poll on, a run started with at most k
    polls made stops at that poll: afterwards at most k+1 polls have been made in total - so at
    most k instructions were executed, none after the poll that saw the cancellation - and if the
    (k+1)-th poll was made the run ended with the timeout error.  This holds wherever the script is:
    top level, inside user-defined functions at any depth, inside nested loops (any byte code). -/
theorem C09_cancel_stops (k : Nat) (M : Machine) (hdone : ∀ n, k ≤ n → M.done n = true)
    (obj : HostVal) (fuel : Nat) (st : RunSt) (h : st.polls ≤ k) :
    (run M obj fuel st).2.polls ≤ k + 1 ∧
    ((run M obj fuel st).2.polls = k + 1 → (run M obj fuel st).1 = .error .timeout) := by
  unfold run
  split
  · exact ⟨by show st.polls ≤ k + 1; omega, fun hh => absurd hh (by show st.polls ≠ k + 1; omega)⟩
  · have hg := loop_good k M hdone obj fuel M.main 0 [] st h
    rw [finish_polls, finish_fst]
    unfold Good at hg
    rcases hg with hg | ⟨h1, h2⟩
    · exact ⟨by omega, fun hh => absurd hh (by omega)⟩
    · exact ⟨by omega, fun _ => h2⟩

/-- the same for the body of any user-defined function, i.e. for any code and any entry point -/
theorem C09_cancel_stops_anywhere (k : Nat) (M : Machine) (hdone : ∀ n, k ≤ n → M.done n = true)
    (obj : HostVal) (fuel : Nat) (code : Bytes) (ip : Nat) (stack : List Value) (st : RunSt) (h : st.polls ≤ k) :
    Good k (loop M obj code fuel ip stack st) :=
  loop_good k M hdone obj fuel code ip stack st h

/-- An already-expired context prevents execution altogether: no instruction runs, nothing is
    written, no variable changes, and the result is the timeout error (`truncate` to the present number of
    scopes is `Run`'s deferred restore: it drops nothing). -/
theorem C09_expired_prevents (M : Machine) (obj : HostVal) (fuel : Nat) (st : RunSt)
    (hexp : M.done st.polls = true) (hmain : M.main ≠ []) :
    run M obj (fuel + 1) st =
      (.error .timeout, { st with polls := st.polls + 1, env := st.env.truncate st.env.scopes.length }) := by
  obtain ⟨b, bs, hm⟩ := List.exists_cons_of_ne_nil hmain
  simp [run, loop, hm, hexp, finish]

/-- in particular nothing is written and the variables are untouched -/
theorem C09_expired_no_effect (M : Machine) (obj : HostVal) (fuel : Nat) (st : RunSt)
    (hexp : M.done st.polls = true) (hmain : M.main ≠ []) :
    (run M obj (fuel + 1) st).2.out = st.out ∧ (run M obj (fuel + 1) st).2.env.globals = st.env.globals := by
  rw [C09_expired_prevents M obj fuel st hexp hmain]
  simp [Env.truncate]

/-- `SetContext` before `Prepare`: the machine built by `Prepare` polls exactly the oracle it was given -/
theorem C09_context_reaches_vm (script : List Char) (opt : Bool) (env : Env) (fns : List (Str × FnImpl))
    (done : Nat → Bool) (p : Api.Prepared) (env' : Env)
    (h : Api.prepare script opt env fns done = .ok (p, env')) : p.machine.done = done := by
  unfold Api.prepare at h
  simp only [] at h
  split at h
  · cases h
  · split at h
    · cases h
    · cases h
      rfl

/-- non-vacuity: the hypotheses are satisfiable (a machine whose context is cancelled from poll 3 on) -/
example : ∃ M : Machine, (∀ n, 3 ≤ n → M.done n = true) ∧ M.done 2 = false :=
  ⟨{ consts := [], main := [], funcs := [], fns := [], done := fun n => decide (3 ≤ n) }, by simp, by simp⟩

end EvalFilter.Props.C09
