/-
  C10 — Scripts are confined: no file, network or process access.

  The property is about every path through the library code a script can drive,
  so it is decided on the code, not on a sample of scripts: the complete table of
  references the library packages make to anything outside the module
  (regenerated from the source on every run with go/types) is checked, entry by
  entry, against a commented allow-list.
-/
import EvalFilter.Spec.Tables
import EvalFilter.Generated.TypeFacts

namespace EvalFilter.Props.C10

/-- Every symbol the library uses from outside itself is pure computation, output to stdout,
    `os.Getenv`, the clock, or the time-zone database. -/
theorem C10_confined : ∀ r ∈ Generated.externalRefs, Spec.Tables.refAllowed r = true := by
  decide +kernel

/-- The library imports only its own packages and the allowed standard-library packages
    (in particular nothing from outside the standard library, no `net`, `os/exec`, `syscall`, `io/ioutil`). -/
theorem C10_imports : ∀ r ∈ Generated.libImports, Spec.Tables.importAllowed r = true := by
  decide +kernel

/-- No cgo, no `unsafe`, no `go:linkname`. -/
theorem C10_no_escape_hatches : Generated.specialFeatures = [] := by decide +kernel

/-- The allow-list is tight where it matters: of package `os` only `Getenv` is allowed. -/
theorem C10_os_only_getenv :
    ∀ r ∈ Generated.externalRefs, r.2.1 = "os" → r.2.2 = "Getenv" := by decide +kernel

/-- `os.ReadFile`, `os.Open`, `net.Dial`, `exec.Command` would all be rejected. -/
theorem C10_allowlist_rejects :
    Spec.Tables.refAllowed ("environment", "os", "ReadFile") = false ∧
    Spec.Tables.refAllowed ("environment", "os", "Open") = false ∧
    Spec.Tables.refAllowed ("vm", "net", "Dial") = false ∧
    Spec.Tables.refAllowed ("vm", "os/exec", "Command") = false ∧
    Spec.Tables.refAllowed ("environment", "os", "Setenv") = false ∧
    Spec.Tables.importAllowed ("vm", "net/http") = false := by decide +kernel

/-- non-vacuity: the table is not empty and does contain the outside reads the statement permits -/
example : ("environment", "os", "Getenv") ∈ Generated.externalRefs ∧
          ("environment", "time", "LoadLocation") ∈ Generated.externalRefs ∧
          Generated.externalRefs.length > 100 := by decide +kernel

end EvalFilter.Props.C10
