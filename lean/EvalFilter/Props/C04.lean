/-
  C04 — Scripts see the host object's fields faithfully.

  Go's `reflect` is trusted; verified is the conversion logic of vm.go over a tree
  (`HostVal`) that describes a Go value the way reflect presents it.
-/
import EvalFilter.Model.VM
import EvalFilter.Proofs.StrOrder

namespace EvalFilter.Props.C04
open EvalFilter.Reflect

theorem C04_int (v : Int64) (ro : Bool) :
    toObject ro (.intV .int v) = .ok (.int v) ∧ toObject ro (.intV .int64 v) = .ok (.int v) := by
  simp [toObject, pure, Except.pure]

theorem C04_float (f : Float) (is32 ro : Bool) : toObject ro (.floatV is32 f) = .ok (.float f) := by
  simp [toObject, pure, Except.pure]

theorem C04_string (s : Str) (ro : Bool) : toObject ro (.strV s) = .ok (.str s) := by simp [toObject, pure, Except.pure]
theorem C04_bool (b ro : Bool) : toObject ro (.boolV b) = .ok (.bool b) := by simp [toObject, pure, Except.pure]

/-- time.Time is seen as its Unix seconds -/
theorem C04_time (u : Int64) : toObject false (.timeV u) = .ok (.int u) := by simp [toObject, pure, Except.pure]

/-- the members of a slice that are of a supported kind -/
def elemValue : HostVal → Option Value
  | .strV s => some (.str s)
  | .boolV b => some (.bool b)
  | .floatV _ f => some (.float f)
  | .intV k v => if k == .int || k == .int32 || k == .int64 then some (.int v) else none
  | .timeV u => some (.int u)
  | _ => none

/-- a slice becomes the array of its convertible members, in the same order … -/
theorem C04_slice (els : List HostVal) : sliceToArray false els = .ok (els.filterMap elemValue) := by
  induction els with
  | nil => rfl
  | cons e es ih =>
    simp only [sliceToArray, ih, List.filterMap_cons]
    cases e
    case intV k v =>
      simp only [elemValue]
      cases (k == .int || k == .int32 || k == .int64) <;> rfl
    all_goals rfl

/-- … and when every member is of a supported kind, with the same length -/
theorem C04_slice_same_length (els : List HostVal) (h : ∀ e ∈ els, (elemValue e).isSome) (vs : List Value)
    (hv : sliceToArray false els = .ok vs) : vs.length = els.length := by
  rw [C04_slice] at hv
  cases hv
  exact List.filterMap_length_eq_length.mpr h

/-- a slice field is seen as an array -/
theorem C04_slice_field (els : List HostVal) :
    toObject false (.sliceV els) = .ok (.array (els.filterMap elemValue)) := by
  simp [toObject, C04_slice, bind, Except.bind, pure, Except.pure]

/-- a field of a kind the engine cannot represent (unsigned and sized integers, pointers, nested
    structs, interfaces, functions, channels …) is null to the script: one instance of each kind -/
theorem C04_unsupported_is_null :
    toObject false (.uintV 3) = .ok .null ∧ toObject false (.intV .int8 3) = .ok .null ∧
    toObject false (.intV .int16 3) = .ok .null ∧ toObject false (.intV .int32 3) = .ok .null ∧
    toObject false .nilPtr = .ok .null ∧ toObject false (.ptrV (.intV .int 1)) = .ok .null ∧
    toObject false (.structV []) = .ok .null ∧ toObject false (.ifaceV (.intV .int 1)) = .ok .null ∧
    toObject false .opaqueV = .ok .null ∧ toObject false .nilIface = .ok .null := by
  simp [toObject, pure, Except.pure]

theorem C04_variable_first (obj : HostVal) (env : VM.Env) (name : Str) (v : Value)
    (hn : ¬ Str.hasPrefix name ['$']) (h : env.get name = some v) : VM.lookup obj env name = .ok v := by
  simp [VM.lookup, Str.trimPrefix_of_not_hasPrefix hn, h]

theorem C04_then_field (obj : HostVal) (env : VM.Env) (name : Str) (fs : List (Str × Value))
    (hn : ¬ Str.hasPrefix name ['$']) (h : env.get name = none) (hf : fieldsOf obj = .ok fs) :
    VM.lookup obj env name = .ok ((lookupField fs name).getD .null) := by
  simp [VM.lookup, Str.trimPrefix_of_not_hasPrefix hn, h, hf]

/-- a name that is neither a variable nor a field yields null -/
theorem C04_neither_is_null (obj : HostVal) (env : VM.Env) (name : Str) (fs : List (Str × Value))
    (hn : ¬ Str.hasPrefix name ['$']) (h : env.get name = none) (hf : fieldsOf obj = .ok fs)
    (hno : lookupField fs name = none) : VM.lookup obj env name = .ok .null := by
  rw [C04_then_field obj env name fs hn h hf, hno]; rfl

/-- the legacy `$` prefix is dropped: `$Name` reads what `Name` reads -/
theorem C04_dollar (obj : HostVal) (env : VM.Env) (name : Str) (hn : ¬ Str.hasPrefix name ['$']) :
    VM.lookup obj env ('$' :: name) = VM.lookup obj env name := by
  have h1 : Str.trimPrefix ('$' :: name) ['$'] = name := by simp [Str.trimPrefix, Str.hasPrefix]
  simp only [VM.lookup, h1, Str.trimPrefix_of_not_hasPrefix hn]

/-- a struct (by value or through a pointer) exposes each exported field under its name -/
theorem C04_struct_fields (fs : List HField) :
    fieldsOf (.structV fs) = structFields fs ∧ fieldsOf (.ptrV (.structV fs)) = structFields fs := by
  simp [fieldsOf]

/-- nil as the object: no fields (so every name that is not a variable is null, `C04_neither_is_null`) -/
theorem C04_nil_object : fieldsOf .nilIface = .ok [] := rfl

example : toObject false (.sliceV [.intV .int 1, .strV ['a'], .uintV 2, .floatV true 1.5]) =
    .ok (.array [.int 1, .str ['a'], .float 1.5]) := by
  rw [C04_slice_field]; rfl

end EvalFilter.Props.C04
