/-
  C06 — Functions and scopes: locals stay local, everything else is global.

  The environment is the pair (global map, stack of scopes).  Parameters, `local`
  variables and foreach variables are bound with `declare` in the innermost
  scope; assignments use `set` (update the nearest binding, else the global map);
  `invoke` opens a scope for a call and `finish` closes whatever the callee left open.
  End to end (`C06_functions_end_to_end`): scripts that define and call their own
  functions run as the big-step semantics `execSs` / `callWith` says; `C06_sem_*` say
  what that semantics does with a call.
-/
import EvalFilter.Props.Tables
import EvalFilter.Proofs.FnDefs2

namespace EvalFilter.Props.C06
open EvalFilter.VM

theorem lookup_setAssoc_same (l : Scope) (k : Str) (v : Value) : (setAssoc l k v).lookup k = some v := by
  induction l with
  | nil => simp [setAssoc]
  | cons p ps ih =>
    obtain ⟨k', v'⟩ := p
    simp only [setAssoc]
    by_cases h : k' = k
    · simp [h]
    · have hb : (k' == k) = false := by simpa using h
      have hb2 : (k == k') = false := by simpa using Ne.symm h
      simp [hb, List.lookup, hb2, ih]

theorem lookup_setAssoc_other (l : Scope) (k k2 : Str) (v : Value) (h : k2 ≠ k) :
    (setAssoc l k v).lookup k2 = l.lookup k2 := by
  induction l with
  | nil =>
    have hb : (k2 == k) = false := by simpa using h
    simp [setAssoc, List.lookup, hb]
  | cons p ps ih =>
    obtain ⟨k', v'⟩ := p
    simp only [setAssoc]
    by_cases hk : k' = k
    · subst hk
      have hb : (k2 == k') = false := by simpa using h
      simp [List.lookup, hb]
    · have hb : (k' == k) = false := by simpa using hk
      simp only [hb, Bool.false_eq_true, ↓reduceIte, List.lookup]
      cases hk2 : (k2 == k') <;> simp [ih]

/-- a declaration touches only the innermost scope: the global variables and every enclosing
    scope (the caller's variables) are unchanged -/
theorem C06_declare_isolated (e : Env) (name : Str) (v : Value) :
    (e.declare name v).globals = e.globals ∧ (e.declare name v).scopes.dropLast = e.scopes.dropLast ∧
    (e.declare name v).scopes.length = e.scopes.length := by
  unfold Env.declare
  split
  · exact ⟨rfl, rfl, rfl⟩
  · rename_i s rest heq
    have hrev : e.scopes = rest.reverse ++ [s] := by
      have := congrArg List.reverse heq
      simpa using this
    simp [hrev]

/-- inside the scope the declared name has the declared value -/
theorem C06_declare_visible (e : Env) (name : Str) (v : Value) (h : e.scopes ≠ []) :
    (e.declare name v).get name = some v := by
  unfold Env.declare
  split
  · rename_i heq
    exact absurd (by simpa using heq) h
  · rename_i s rest heq
    simp [Env.get, Env.isLocal, lookup_setAssoc_same]

/-- closing a scope discards exactly what was declared in it -/
theorem C06_remove_after_add (e : Env) : e.addScope.removeScope = some e := by
  cases e with
  | mk g s => simp [Env.addScope, Env.removeScope]

theorem C06_declare_then_remove (e : Env) (name : Str) (v : Value) :
    (e.addScope.declare name v).removeScope = some e := by
  cases e with
  | mk g s =>
    simp [Env.addScope, Env.declare, Env.removeScope]

/-- so after a call the caller's variable of the same name has its old value -/
theorem C06_shadow_restored (e e' : Env) (name : Str) (v : Value)
    (h : (e.addScope.declare name v).removeScope = some e') : e'.get name = e.get name := by
  rw [C06_declare_then_remove] at h
  cases h; rfl

/-- an assignment to a name that no open scope binds goes to the global map … -/
theorem C06_set_unbound_is_global (e : Env) (name : Str) (v : Value) (h : e.isLocal name = none) :
    (e.set name v).scopes = e.scopes ∧ (e.set name v).globals.lookup name = some v := by
  have hu : ∀ ss : List Scope, (∀ s ∈ ss, s.lookup name = none) → Env.updateInnermost ss name v = none := by
    intro ss hn
    induction ss with
    | nil => rfl
    | cons s rest ih => simp [Env.updateInnermost, ih fun s hs => hn s (.tail _ hs), hn s (.head _)]
  unfold Env.isLocal at h
  unfold Env.set
  rw [hu e.scopes (by simpa [List.findSome?_eq_none_iff] using h)]
  exact ⟨rfl, lookup_setAssoc_same _ _ _⟩

/-- … and is therefore still visible when every scope has been closed -/
theorem C06_globals_persist (e : Env) (name : Str) (v : Value) (h : e.isLocal name = none) :
    ({ (e.set name v) with scopes := [] } : Env).get name = some v := by
  have := (C06_set_unbound_is_global e name v h).2
  simp [Env.get, Env.isLocal, this]

/-- a call never leaves more scopes open than there were before it, whatever the callee's byte code
    does and however it ends (return from inside loops, error, panic, time-out) -/
theorem C06_call_restores_scope_depth (runBody : Bytes → RunSt → Res × RunSt) (uf : UserFn)
    (args : List Value) (st : RunSt) (r : Res) (st' : RunSt) (env' : Env)
    (h : invoke runBody uf args st = (r, st')) (hr : st'.env.removeScope = some env') :
    env'.scopes.length ≤ st.env.scopes.length := by
  have hle := invoke_scopes_le runBody uf args st
  rw [h] at hle
  unfold Env.removeScope at hr
  split at hr
  · cases hr
  · cases hr
    simp [List.length_dropLast]
    omega

/-- a wrong argument count is a run-time error -/
theorem C06_arg_count_error (runBody : Bytes → RunSt → Res × RunSt) (uf : UserFn) (args : List Value) (st : RunSt)
    (hd : st.depth < maxCallDepth) (h : uf.params.length ≠ args.length) :
    (invoke runBody uf args st).1 = .error (.error "argCount") := by
  have : ¬ (maxCallDepth ≤ st.depth) := by omega
  unfold invoke
  simp [h, err, this]

/-- recursion deeper than the call-depth limit is a run-time error too (not a crash of the host) -/
theorem C06_recursion_limit (runBody : Bytes → RunSt → Res × RunSt) (uf : UserFn) (args : List Value) (st : RunSt)
    (hd : st.depth ≥ maxCallDepth) : invoke runBody uf args st = (.error (.error "callDepth"), st) := by
  unfold invoke
  simp [hd, err]

/-- calling a name that is neither a built-in/host function nor a user-defined function is an error -/
theorem C06_unknown_function_error (M : Machine) (obj : HostVal) (codeLen : Nat)
    (runBody : Bytes → RunSt → Res × RunSt) (n next : Nat) (fname : Value) (rest0 : List Value) (st : RunSt)
    (args rest : List Value) (hpop : popN n rest0 = some (args, rest))
    (h1 : lookupFn M fname.inspect = none) (h2 : lookupUser M fname.inspect = none) :
    step M obj codeLen runBody Op.call.toNat n next (fname :: rest0) st = .halt (.error (.error "noSuchFunction")) st := by
  show (match popN n rest0 with | none => _ | some (args, rest) => _) = _
  rw [hpop]
  show (match lookupFn M fname.inspect with | some f => _ | none => _) = _
  rw [h1]
  show (match lookupUser M fname.inspect with | none => _ | some uf => _) = _
  rw [h2]; rfl

/-- a built-in wins over a user-defined function of the same name: OpCall consults the table of
    built-in and host functions first -/
theorem C06_builtin_wins (M : Machine) (obj : HostVal) (codeLen : Nat)
    (runBody : Bytes → RunSt → Res × RunSt) (n next : Nat) (fname : Value) (rest0 : List Value) (st : RunSt)
    (args rest : List Value) (hpop : popN n rest0 = some (args, rest)) (f : FnImpl)
    (h1 : lookupFn M fname.inspect = some f) (v : Value) (o : Str)
    (hv : callImpl fname.inspect f args = { out := o, res := .val v }) (hnv : v ≠ .nil) (hvoid : v ≠ .void) :
    step M obj codeLen runBody Op.call.toNat n next (fname :: rest0) st =
      .cont next (v :: rest) { st with out := st.out ++ o } := by
  show (match popN n rest0 with | none => _ | some (args, rest) => _) = _
  rw [hpop]
  show (match lookupFn M fname.inspect with | some f => _ | none => _) = _
  rw [h1]
  dsimp only
  rw [hv]
  cases v <;> first | rfl | exact absurd rfl hnv | exact absurd rfl hvoid

section endToEnd
open EvalFilter.Exec EvalFilter.Compiler

/-- **Scripts that define and call their own functions run as the language defines.**  For every script
    (assignments, compound assignments, `local`, if / else, while, foreach, switch, return over
    value-producing expressions), its function definitions wherever they stand - bodies of any size, calling each other and
    themselves, before or after their definition - with calls of them in the positions `x = f(a, …);`, `f(a, …);`,
    `return f(a, …);`: the compiled program's run ends with exactly the outcome of the big-step semantics
    `execSs` over the script's own function table.  In that semantics (`callWith`) a call evaluates its
    arguments left to right; a built-in or host function of the name wins; otherwise the LAST definition of
    the name in the script is taken, wherever it stands; an unknown name, a wrong argument count and more than
    `maxCallDepth` open calls are errors; the body runs in a fresh scope holding the parameters; `return`
    gives its value, falling off the end gives none; and however the body ends (from inside loops, too) the
    scopes it opened are closed. -/
theorem C06_functions_end_to_end (prog : Program) (hp : pureSs prog = true)
    (hne : 1 ≤ Stmt.sizes prog) (c : Compiled)
    (hc : compileProgram prog = .ok c) (fns : List (Str × FnImpl)) (obj : HostVal) (env : Env) (out : Str)
    (polls depth f : Nat)
    (hnd : execSs (Api.newMachine c false fns (fun _ => false)) (allDefs prog) obj depth f prog env out ≠ .diverged) :
    ∃ n k, ∀ fuel, ∃ st',
      run (Api.newMachine c false fns (fun _ => false)) obj (fuel + n) ⟨env, out, polls, depth⟩ = st' ∧
      (match programResult (polls + k) depth (execSs (Api.newMachine c false fns (fun _ => false)) (allDefs prog) obj depth f prog env out) with
       | some (r, s) => st'.1 = r ∧ st'.2.out = s.out ∧ st'.2.env.globals = s.env.globals ∧ st'.2.polls = s.polls
       | none => True) :=
  program_correct (allDefs prog) prog hp hne c hc fns obj env out polls depth f
    (fnOK_of_compile_all prog hp c hc fns obj) hnd

/-- the machine's function table is the script's: every name the script defines is bound to the code of
    its last definition, no other name is bound -/
theorem C06_function_table (prog : Program) (hp : pureSs prog = true) (c : Compiled)
    (hc : compileProgram prog = .ok c) (fns : List (Str × FnImpl)) (obj : HostVal) :
    FnOK (Api.newMachine c false fns (fun _ => false)) (allDefs prog) obj :=
  fnOK_of_compile_all prog hp c hc fns obj

/-- in the semantics: a built-in or host function wins over a user-defined one of the same name - the
    script's own table is not even consulted -/
theorem C06_sem_builtin_wins (deep : Bool) (run : List Stmt → Env → Str → Outcome) (M : Machine) (F : FnTable) (obj : HostVal)
    (name : Str) (args : List Expr) (env : Env) (out : Str) (impl : FnImpl) (h : lookupFn M name = some impl) :
    callWith deep run M F obj name args env out = callWith deep run M [] obj name args env out := by
  unfold callWith
  cases evalEs M obj env args out with
  | mk res o => cases res <;> simp [h]

/-- in the semantics: calling a name nobody defines is an error -/
theorem C06_sem_unknown_function (deep : Bool) (run : List Stmt → Env → Str → Outcome) (M : Machine) (F : FnTable) (obj : HostVal)
    (name : Str) (args : List Expr) (env : Env) (out : Str) (vs : List Value) (o : Str)
    (ha : evalEs M obj env args out = (.ok vs, o)) (h1 : lookupFn M name = none) (h2 : F.find name = none) :
    callWith deep run M F obj name args env out = .failed (.error "noSuchFunction") env o := by
  simp [callWith, ha, h1, h2]

/-- in the semantics: a wrong argument count is an error, and the body does not run -/
theorem C06_sem_arg_count (run : List Stmt → Env → Str → Outcome) (M : Machine) (F : FnTable) (obj : HostVal)
    (name : Str) (args : List Expr) (env : Env) (out : Str) (vs : List Value) (o : Str) (sf : SFn)
    (ha : evalEs M obj env args out = (.ok vs, o)) (h1 : lookupFn M name = none) (h2 : F.find name = some sf)
    (hl : sf.params.length ≠ vs.length) :
    callWith false run M F obj name args env out = .failed (.error "argCount") env.addScope o := by
  simp [callWith, ha, h1, h2, hl]

/-- in the semantics: however the body ends, a call that comes back leaves no more scopes open than before -/
theorem C06_sem_scopes_closed (deep : Bool) (run : List Stmt → Env → Str → Outcome) (M : Machine) (F : FnTable) (obj : HostVal)
    (name : Str) (args : List Expr) (env : Env) (out : Str) :
    (∀ v env' o', callWith deep run M F obj name args env out = .value v env' o' → env'.scopes.length ≤ env.scopes.length) ∧
    (∀ env' o', callWith deep run M F obj name args env out = .novalue env' o' → env'.scopes.length ≤ env.scopes.length) := by
  have hend : ∀ (v : Value) (e0 : Env) (o : Str) (n : Nat),
      (∀ v' env' o', callEnd v (e0.truncate (n + 1)) o = .value v' env' o' → env'.scopes.length ≤ n) ∧
      (∀ env' o', callEnd v (e0.truncate (n + 1)) o = .novalue env' o' → env'.scopes.length ≤ n) := by
    intro v e0 o n
    unfold callEnd
    cases hr : (e0.truncate (n + 1)).removeScope with
    | none => exact ⟨nofun, nofun⟩
    | some e =>
      -- the scope the call opened is the one `callEnd` removes
      have hlen : e.scopes.length ≤ n := by
        unfold Env.removeScope Env.truncate at hr
        split at hr <;> cases hr
        simp [List.length_dropLast, List.length_take]; omega
      dsimp only
      split
      · exact ⟨nofun, fun _ _ h => by cases h; exact hlen⟩
      · exact ⟨fun _ _ _ h => by cases h; exact hlen, nofun⟩
  unfold callWith
  cases evalEs M obj env args out with
  | mk res o =>
    cases res with
    | error x => dsimp only; split <;> exact ⟨nofun, nofun⟩
    | ok vs =>
      cases hl : lookupFn M name with
      | some impl =>
        -- a built-in or host function leaves the environment alone
        dsimp only
        generalize callImpl name impl vs = cr
        cases hr : cr.res with
        | val v => cases v <;> refine ⟨fun _ _ _ h => ?_, fun _ _ h => ?_⟩ <;> cases h <;> exact Nat.le_refl _
        | _ => exact ⟨nofun, nofun⟩
      | none =>
        dsimp only
        cases hf : F.find name with
        | none => exact ⟨nofun, nofun⟩
        | some sf =>
          dsimp only
          split
          · exact ⟨nofun, nofun⟩
          split
          · exact ⟨nofun, nofun⟩
          · rw [foldl_declare_scopes_length, show env.addScope.scopes.length = env.scopes.length + 1 by simp [Env.addScope]]
            cases run sf.body ((sf.params.zip vs).foldl (fun e (p : Str × Value) => e.declare p.1 p.2) env.addScope) o with
            | returned v e2 o2 => exact hend v e2 o2 env.scopes.length
            | normal e2 o2 => exact hend .void e2 o2 env.scopes.length
            | _ => exact ⟨nofun, nofun⟩

end endToEnd

/-- the registry consulted first is the regenerated list of built-ins -/
theorem C06_builtin_registry : Builtins.names = Spec.Tables.builtins.map (·.1) := Props.Tables.model_builtins

example : (({} : Env).addScope.declare "x".toList (.int 1)).get "x".toList = some (.int 1) :=
  C06_declare_visible _ _ _ (by simp [Env.addScope])

section nonvacuous
open EvalFilter.Exec EvalFilter.Compiler
/-- `n = 7; m = 3; function f(n) { local m; m = n; n = 1; g = m; return n; } y = f(5); return n * 1000 + m * 100 + g * 10 + y;`:
    after the call the caller's `n` and `m` have their old values (the parameter and the local are gone),
    the assignment to `g` is global: 7351 -/
private def progC : Program :=
  [ .expr (.assign ['n'] (.intLit ['7'] 7)),
    .expr (.assign ['m'] (.intLit ['3'] 3)),
    .expr (.funcDef ['f'] [['n']]
      [ .expr (.localE ['m']),
        .expr (.assign ['m'] (.ident ['n'])),
        .expr (.assign ['n'] (.intLit ['1'] 1)),
        .expr (.assign ['g'] (.ident ['m'])),
        .ret (.ident ['n']) ]),
    .expr (.assign ['y'] (.call (.ident ['f']) [.intLit ['5'] 5])),
    .ret (.infix ['+'] (.infix ['+'] (.infix ['+'] (.infix ['*'] (.ident ['n']) (.intLit ['1','0','0','0'] 1000))
        (.infix ['*'] (.ident ['m']) (.intLit ['1','0','0'] 100)))
        (.infix ['*'] (.ident ['g']) (.intLit ['1','0'] 10))) (.ident ['y'])) ]
private def compC : Compiled := match compileProgram progC with | .ok c => c | .error _ => ⟨[], [], []⟩
example : pureSs progC = true := by decide
example : 1 ≤ Stmt.sizes progC := by decide
example : compileProgram progC = .ok compC := by rfl
example : (match execSs (Api.newMachine compC false [] (fun _ => false)) (allDefs progC) .nilIface 0 20 progC {} [] with
    | .returned (.int v) _ _ => v == 7351
    | _ => false) = true := by decide +kernel
/-- definitions inside a function and inside a block:
    `function outer() { function inner(a) { return a * 2; } x = inner(4); return x + 1; }
     if (true) { function late() { return 5; } } y = outer(); z = late(); return y * 10 + z;` yields 95 -/
private def progN : Program :=
  [ .expr (.funcDef ['o','u','t','e','r'] []
      [ .expr (.funcDef ['i','n','n','e','r'] [['a']] [ .ret (.infix ['*'] (.ident ['a']) (.intLit ['2'] 2)) ]),
        .expr (.assign ['x'] (.call (.ident ['i','n','n','e','r']) [.intLit ['4'] 4])),
        .ret (.infix ['+'] (.ident ['x']) (.intLit ['1'] 1)) ]),
    .expr (.ifE (.boolLit true) [ .expr (.funcDef ['l','a','t','e'] [] [ .ret (.intLit ['5'] 5) ]) ] none),
    .expr (.assign ['y'] (.call (.ident ['o','u','t','e','r']) [])),
    .expr (.assign ['z'] (.call (.ident ['l','a','t','e']) [])),
    .ret (.infix ['+'] (.infix ['*'] (.ident ['y']) (.intLit ['1','0'] 10)) (.ident ['z'])) ]
private def compN : Compiled := match compileProgram progN with | .ok c => c | .error _ => ⟨[], [], []⟩
example : pureSs progN = true := by decide
example : (allDefs progN).map (·.name) = [['i','n','n','e','r'], ['o','u','t','e','r'], ['l','a','t','e']] := by decide
example : compileProgram progN = .ok compN := by rfl
example : (match execSs (Api.newMachine compN false [] (fun _ => false)) (allDefs progN) .nilIface 0 20 progN {} [] with
    | .returned (.int v) _ _ => v == 95
    | _ => false) = true := by decide +kernel
end nonvacuous

end EvalFilter.Props.C06
