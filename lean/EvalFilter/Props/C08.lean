/-
  C08 — Bad scripts and odd objects produce errors, never a crash of the host.

  Every function of the model is total (Lean accepts no other), and every partial
  Go operation the model mirrors - slice indexing, type assertions, calling a method
  on a nil interface, integer division, reflection on the wrong kind - is an explicit
  `Err.panic` outcome of the modelled `vm.Run`, which `Execute`'s `recover()` turns
  into an error value.  The theorems below state the consequences that matter to a
  host; that the *Go* functions never panic into the caller on any input is then the
  correspondence (S-fuzz: random bytes, token soups, mutated and valid programs, odd
  host objects, run-time faults; an escaping panic or a dead worker process is a
  violation with the input as replay).

  Partial by nature: exhaustion of the Go stack or of memory (deeply nested or huge
  scripts) cannot be exhibited by a Lean model; the harness runs a deep/long-input
  stream in an isolated worker process and observes its exit status.
-/
import EvalFilter.Props.C07
import EvalFilter.Proofs.Exec

namespace EvalFilter.Props.C08
open EvalFilter.VM

/-- `Prepare` is a total function of the script text: for every rune string it either reports an
    error or yields a prepared program -/
theorem C08_prepare_total (script : List Char) (opt : Bool) (env : Env) (fns : List (Str × FnImpl)) (done : Nat → Bool) :
    (∃ e, Api.prepare script opt env fns done = .error e) ∨ (∃ p, Api.prepare script opt env fns done = .ok p) := by
  cases h : Api.prepare script opt env fns done with
  | error e => exact Or.inl ⟨e, rfl⟩
  | ok p => exact Or.inr ⟨p, rfl⟩

/-- `Execute` returns a value or an error, for every prepared program, object and state; the
    panics of the Go code are the error `panic` (what `recover()` produces), not an escape -/
theorem C08_execute_total (M : Machine) (obj : HostVal) (st : RunSt) (fuel : Nat) :
    (∃ v, (Api.execute M obj st fuel).1 = .ok v) ∨ (∃ e, (Api.execute M obj st fuel).1 = .error e) := by
  cases h : (Api.execute M obj st fuel).1 with
  | ok v => exact Or.inl ⟨v, rfl⟩
  | error e => exact Or.inr ⟨e, rfl⟩

/-- a host object of a kind the engine cannot walk (not a struct, not a map, a nil pointer) makes a
    field lookup fail with the recovered panic - an error, not a crash -/
theorem C08_odd_object_is_error (env : Env) (name : Str) (h : env.get (Str.trimPrefix name ['$']) = none) :
    VM.lookup (.intV .int 5) env name = .error .panic ∧ VM.lookup .nilPtr env name = .error .panic ∧
    VM.lookup (.strV []) env name = .error .panic := by
  simp [VM.lookup, h, Reflect.fieldsOf, throw, throwThe, MonadExceptOf.throw]

/-- a field the engine cannot convert never yields Go's nil object (which `Run` would dereference) -/
theorem C08_fields_never_nil (hv : HostVal) (ro : Bool) (v : Value) (h : Reflect.toObject ro hv = .ok v) : v ≠ .nil := by
  rintro rfl
  cases hv <;> simp only [Reflect.toObject, bind, Except.bind] at h <;> repeat' split at h
  all_goals cases h

/-- a host function that returns Go's nil ends the run with an error -/
theorem C08_nil_from_host_is_error (M : Machine) (obj : HostVal) (codeLen : Nat)
    (runBody : Bytes → RunSt → Res × RunSt) (next : Nat) (name : Str) (args below : List Value) (st : RunSt)
    (hl : lookupFn M name = some (.host .nilRet)) :
    step M obj codeLen runBody Op.call.toNat args.length next (.str name :: (args.reverse ++ below)) st =
      .halt (.error .panic) { st with out := st.out ++ hostMarker name args } := by
  rw [Exec.step_call_host hl]
  rfl

/-- `panic()` in a script is an error of that run … -/
theorem C08_script_panic_is_error (args : List Value) : (Builtins.call "panic" args).res matches .panic :=
  rfl

/-- … and the evaluator remains usable afterwards: whatever a run did, the next run starts from a
    clean machine (C07) -/
theorem C08_usable_after_error (M : Machine) (obj : HostVal) (fuel : Nat) (st : RunSt) (h : Props.C07.Clean st) :
    Props.C07.Clean (run M obj fuel st).2 := Props.C07.C07_run_leaves_clean M obj fuel st h

/-- stack underflow, bad constant index, jump out of bounds and unknown opcode (200 is none) are errors -/
theorem C08_internal_faults_are_errors (M : Machine) (obj : HostVal) (codeLen : Nat)
    (runBody : Bytes → RunSt → Res × RunSt) (arg next : Nat) (st : RunSt) :
    step M obj codeLen runBody Op.add.toNat arg next [] st = .halt (.error (.error "underflow")) st ∧
    step M obj codeLen runBody Op.return.toNat arg next [] st = .halt (.error (.error "underflow")) st ∧
    step M obj codeLen runBody 200 arg next [] st = .halt (.error (.error "unknownOpcode")) st ∧
    (arg ≥ codeLen → step M obj codeLen runBody Op.jump.toNat arg next [] st = .halt (.error (.error "ipOOB")) st) ∧
    (M.consts[arg]? = none → step M obj codeLen runBody Op.constant.toNat arg next [] st = .halt (.error (.error "badConstant")) st) := by
  refine ⟨rfl, rfl, rfl, fun h => if_pos h, fun h => ?_⟩
  show (match M.consts[arg]? with | none => _ | some c => _) = _
  rw [h]
  rfl

end EvalFilter.Props.C08
