/-
  C16 — Arrays, hashes, strings and ranges behave as ordered, total containers.
-/
import EvalFilter.Model.VM

namespace EvalFilter.Props.C16
open EvalFilter.VM

theorem C16_index_array_in_range (els : List Value) (i : Int64) (h0 : 0 ≤ i) (h1 : i.toInt < els.length) :
    indexOp (.array els) (.int i) = .ok (els.getD i.toInt.toNat .null) := by
  have : ¬ (i < 0) := Int64.not_lt.mpr h0
  have h2 : ¬ (i.toInt ≥ (els.length : Int)) := by omega
  simp [indexOp, this, h2]

theorem C16_index_array_out_of_range (els : List Value) (i : Int64) (h : i < 0 ∨ i.toInt ≥ els.length) :
    indexOp (.array els) (.int i) = .ok .null := by
  simp [indexOp, h]

/-- the element found is the one at that position of the list (order and length are preserved) -/
theorem C16_index_array_nth (els : List Value) (k : Nat) (hk : k < els.length) (hs : k < 2 ^ 63) :
    indexOp (.array els) (.int (Int64.ofNat k)) = .ok els[k] := by
  have hk' : (Int64.ofNat k).toInt = k := by
    rw [Int64.toInt_ofNat_of_lt hs]
  have h0 : (0 : Int64) ≤ Int64.ofNat k := by
    rw [Int64.le_iff_toInt_le, hk']; simp
  rw [C16_index_array_in_range els _ h0 (by rw [hk']; exact_mod_cast hk)]
  simp [hk', List.getD_eq_getElem?_getD, hk]

theorem C16_index_string_in_range (s : Str) (i : Int64) (h0 : 0 ≤ i) (h1 : i.toInt < s.length) :
    indexOp (.str s) (.int i) = .ok (.str [s.getD i.toInt.toNat ' ']) := by
  have : ¬ (i < 0) := Int64.not_lt.mpr h0
  have h2 : ¬ (i.toInt ≥ (s.length : Int)) := by omega
  simp [indexOp, this, h2]

theorem C16_index_string_out_of_range (s : Str) (i : Int64) (h : i < 0 ∨ i.toInt ≥ s.length) :
    indexOp (.str s) (.int i) = .ok .null := by
  simp [indexOp, h]

/-- a non-integer index into an array or string, and any index into a scalar, is an error
    (also for a `foreach` copy, which is indexed like a scalar: `hl` and `hi` are not used) -/
theorem C16_index_errors (l i : Value) (v : Value)
    (h : (¬ l.isType .ARRAY ∧ ¬ l.isType .STRING ∧ ¬ l.isType .HASH) ∨
         ((l.isType .ARRAY ∨ l.isType .STRING) ∧ ¬ i.isType .INTEGER))
    (hl : ∀ x off, l ≠ .iterating x off) (hi : ∀ x off, i ≠ .iterating x off) :
    indexOp l i ≠ .ok v := by
  unfold indexOp
  split
  · exact h.elim (fun h => absurd rfl h.2.2) (fun h => h.1.elim nofun nofun)
  · split
    · exact h.elim (fun h => absurd rfl h.1) (fun h => absurd rfl h.2)
    · nofun
  · split
    · exact h.elim (fun h => absurd rfl h.2.1) (fun h => absurd rfl h.2)
    · nofun
  · nofun

theorem C16_hash_lookup_inserted (ps : List HPair) (p : HPair) :
    HashMapModel.lookup (HashMapModel.insert ps p) p.hk = some p := by
  induction ps with
  | nil => simp [HashMapModel.insert, HashMapModel.lookup]
  | cons q qs ih =>
    simp only [HashMapModel.insert]
    split
    · simp [HashMapModel.lookup]
    · next h => simpa [HashMapModel.lookup, List.find?_cons, h] using ih

/-- the key is the `HashKey` (type and 64-bit hash), as in the Go map: two strings whose FNV-1a hashes
    collide are one key here too -/
theorem C16_hash_lookup_other (ps : List HPair) (p : HPair) (hk : HashKey) (h : hk ≠ p.hk) :
    HashMapModel.lookup (HashMapModel.insert ps p) hk = HashMapModel.lookup ps hk := by
  have hpk : (p.hk == hk) = false := by simpa using Ne.symm h
  induction ps with
  | nil => simp [HashMapModel.insert, HashMapModel.lookup, hpk]
  | cons q qs ih =>
    simp only [HashMapModel.insert]
    split
    · next hq => simp [HashMapModel.lookup, hpk, (beq_iff_eq.mp hq) ▸ hpk]
    · simp only [HashMapModel.lookup, List.find?_cons] at ih ⊢
      rw [ih]

/-- integer, float and string keys are distinct keys even when they print alike -/
theorem C16_key_types_distinct (i : Int64) (f : Float) (s : Str) :
    (Value.int i).hashKey? ≠ (Value.float f).hashKey? ∧
    (Value.int i).hashKey? ≠ (Value.str s).hashKey? ∧
    (Value.float f).hashKey? ≠ (Value.str s).hashKey? := by
  simp [Value.hashKey?]

theorem C16_int_keys_injective (i j : Int64) (h : (Value.int i).hashKey? = (Value.int j).hashKey?) : i = j := by
  simp [Value.hashKey?] at h
  have := congrArg UInt64.toInt64 h
  simpa using this

/-- indexing a hash gives the stored value, null for absent keys, an error for unhashable keys -/
theorem C16_hash_index (ps : List HPair) (k : Value) :
    indexOp (.hash ps) k =
      (match k.hashKey? with
       | none => .error (.error "hashKey")
       | some hk => .ok (((HashMapModel.lookup ps hk).map HPair.val).getD .null)) := by
  simp only [indexOp]
  cases k.hashKey? <;> simp [err]

/-- `Hash.Entries()` (printing, `keys`, iteration) lists every pair exactly once -/
theorem C16_entries_perm (ps : List HPair) : (HashMapModel.entries ps).Perm ps :=
  List.mergeSort_perm _ _

theorem C16_iter_array (els : List Value) (k : Nat) :
    iterNext (.array els) k =
      if h : k < els.length then some (els[k], .int (Int64.ofNat k)) else none := by
  by_cases h : k < els.length
  · simp [iterNext, h, List.getD_eq_getElem?_getD]
  · simp [iterNext, h]

theorem C16_iter_string (s : Str) (k : Nat) :
    iterNext (.str s) k =
      if h : k < s.length then some (.str [s[k]], .int (Int64.ofNat k)) else none := by
  by_cases h : k < s.length
  · simp [iterNext, h, List.getD_eq_getElem?_getD]
  · simp [iterNext, h]

theorem C16_iter_hash (ps : List HPair) (k : Nat) :
    iterNext (.hash ps) k =
      if h : k < (HashMapModel.entries ps).length then
        some (((HashMapModel.entries ps)[k]).val, ((HashMapModel.entries ps)[k]).key) else none := by
  by_cases h : k < (HashMapModel.entries ps).length
  · simp [iterNext, h]
  · simp [iterNext, h]

/-- the loop protocol: starting from offset 0 and advancing by one, the values produced are
    exactly the elements, in order, and then the iteration ends -/
theorem C16_iter_all_array (els : List Value) :
    (List.range els.length).map (fun k => (iterNext (.array els) k).map (·.1)) = els.map some ∧
    iterNext (.array els) els.length = none := by
  constructor
  · apply List.ext_getElem
    · simp
    · intro n h1 h2
      simp at h1
      simp [C16_iter_array, h1]
  · simp [iterNext]

/-- `len` counts elements or characters -/
theorem C16_len (els : List Value) (ps : List HPair) (s : Str) :
    (Builtins.call "len" [.array els]).res matches .val (.int _) ∧
    (match (Builtins.call "len" [.array els]).res with | .val (.int n) => n = Int64.ofNat els.length | _ => False) ∧
    (match (Builtins.call "len" [.hash ps]).res with | .val (.int n) => n = Int64.ofNat ps.length | _ => False) ∧
    (match (Builtins.call "len" [.str s]).res with | .val (.int n) => n = Int64.ofNat s.length | _ => False) :=
  ⟨rfl, rfl, rfl, rfl⟩

example : indexOp (.array [.int 7, .int 8]) (.int 1) = .ok (.int 8) := by
  rw [C16_index_array_in_range _ _ (by decide) (by decide)]; rfl
example : indexOp (.array [.int 7, .int 8]) (.int 2) = .ok .null :=
  C16_index_array_out_of_range _ _ (Or.inr (by decide))

end EvalFilter.Props.C16
