/-
  C13 — A script that cannot be fully translated is rejected by Prepare.

  Theorems about the model parser / compiler for ALL token lists and trees (the "no matter how deeply nested"
  of the property is the induction over the parser's recursion, `Proofs/ParserClean.lean`):

  * a token list with an ILLEGAL token (unterminated string or regexp, illegal character, NUL) or a type-less
    token (lone `&`, `|`, `~`) anywhere before the end of input, or whose brackets do not balance, is rejected;
  * in any parser state: assignment to anything but a variable, `local` outside a function, a ternary inside a
    ternary, a token that starts no expression, a missing expected token are refused (the model is an `Option`
    parser, so a failed sub-parse fails the whole; that the Go parser behaves like it is the correspondence
    check);
  * in any compiler state and at any offset: a compound assignment whose target is not a variable and a switch
    whose value does not compile are compile errors;
  * inputs on which the lexer produces such tokens.
-/
import EvalFilter.Proofs.ParserClean
import EvalFilter.Props.C12
import EvalFilter.Proofs.Lexer

namespace EvalFilter.Props.C13
open EvalFilter.Parser

/-- A token list with an ILLEGAL or type-less token anywhere before the end of input is rejected. -/
theorem C13_illegal_token_rejected (toks : List Token)
    (h : ∃ t ∈ toks.takeWhile (fun t => t.ty != .EOF), t.ty = .ILLEGAL ∨ t.ty = .NONE) :
    parse toks = none := by
  obtain ⟨t, ht, hbad⟩ := h
  refine Option.eq_none_iff_forall_ne_some.mpr fun p hp => ?_
  have hl := (parse_walk hp).1 t ht
  exact hbad.elim hl.1 hl.2.2

/-- A token list whose brackets do not balance is rejected: every truncation of a program that
    leaves a bracket open, and every stray closing bracket, at whatever depth. -/
theorem C13_unbalanced_rejected (toks : List Token)
    (h : net (toks.takeWhile (fun t => t.ty != .EOF)) ≠ 0) : parse toks = none :=
  Option.eq_none_iff_forall_ne_some.mpr fun _ hp => h (parse_walk hp).2

/-- the same two facts at the level of `Prepare`: it fails, whatever the options, variables and functions -/
theorem C13_prepare_rejects (script : List Char) (optimize : Bool) (env : VM.Env) (fns : List (Str × VM.FnImpl))
    (done : Nat → Bool)
    (h : (∃ t ∈ (Lexer.lex script).takeWhile (fun t => t.ty != .EOF), t.ty = .ILLEGAL ∨ t.ty = .NONE) ∨
         net ((Lexer.lex script).takeWhile (fun t => t.ty != .EOF)) ≠ 0) :
    ∃ e, Api.prepare script optimize env fns done = .error e := by
  have hp := h.elim (C13_illegal_token_rejected _) (C13_unbalanced_rejected _)
  exact ⟨.parse, by simp [Api.prepare, hp]⟩

/-- non-vacuity: concrete scripts -/
theorem C13_examples :
    (∃ t ∈ (Lexer.lex "if (a) { x = \"abc; }".toList).takeWhile (fun t => t.ty != .EOF), t.ty = .ILLEGAL ∨ t.ty = .NONE) ∧
    (∃ t ∈ (Lexer.lex "if (a) { x = [1, f(2 & 3)]; }".toList).takeWhile (fun t => t.ty != .EOF), t.ty = .ILLEGAL ∨ t.ty = .NONE) ∧
    net ((Lexer.lex "while (a) { if (b) { x = [1, 2; } }".toList).takeWhile (fun t => t.ty != .EOF)) ≠ 0 ∧
    net ((Lexer.lex "while (a) { if (b) { x = [1, 2]; } }".toList).takeWhile (fun t => t.ty != .EOF)) = 0 ∧
    (parse (Lexer.lex "while (a) { if (b) { x = [1, 2]; } }".toList)).isSome = true := by
  -- To the kernel a string literal is `String.ofList` of its runes, and `toList` of that goes through the UTF-8
  -- bytes, which is slow to evaluate.  `String.toList_ofList` hands over the runes themselves.
  repeat rw [String.toList_ofList]
  decide +kernel

/-- **If, anywhere in the script, the lexer produces an ILLEGAL or type-less token, Prepare fails.**
    `Lexer.Reach script s` are the states the lexer passes through; the token it produces in any of them
    is in the stream, before the end-of-input token, so the parser cannot step over it. -/
theorem C13_bad_token_anywhere (script : List Char) (s : Lexer.LexSt) (hr : Lexer.Reach script s) (hne : s.rest ≠ [])
    (hbad : (Lexer.nextToken s).1.ty = .ILLEGAL ∨ (Lexer.nextToken s).1.ty = .NONE)
    (optimize : Bool) (env : VM.Env) (fns : List (Str × VM.FnImpl)) (done : Nat → Bool) :
    ∃ e, Api.prepare script optimize env fns done = .error e :=
  C13_prepare_rejects script optimize env fns done
    (Or.inl ⟨_, Lexer.lex_mem_before_eof script _ (Lexer.reach_token_mem script s hr hne)
      (by rcases hbad with h | h <;> simp [h]), hbad⟩)

/-- the end-of-input token comes last in the stream and only there: nothing after it is ever ignored -/
theorem C13_eof_only_last (script : List Char) :
    (∀ t ∈ (Lexer.lex script).dropLast, t.ty ≠ .EOF) ∧ ∃ ts e, Lexer.lex script = ts ++ [e] ∧ e.ty = .EOF := by
  obtain ⟨ts, h, hts⟩ := Lexer.lexAll_shape ⟨script, .NONE⟩
  exact ⟨by rwa [Lexer.lex, h, List.dropLast_concat], ts, _, h, rfl⟩

/-- a quote that is never closed yields an ILLEGAL token -/
theorem C13_unterminated_string (prev : TokType) (q : Char) (hq : q = '"' ∨ q = '\'') (cs : List Char)
    (h : (Lexer.readString q cs []).1 = none) : (Lexer.lexOne prev q cs).1.ty = .ILLEGAL := by
  rw [Lexer.lexOne_quote prev q hq]
  split
  next h' => rw [h'] at h; cases h
  · rfl

/-- a `/` in regexp position whose pattern never ends, or whose flags are not `i`/`m`, yields ILLEGAL -/
theorem C13_bad_regexp (prev : TokType) (cs : List Char) (hprev : Lexer.slashDivAfter.contains prev = false)
    (e : Lexer.RegexpErr) (h : (Lexer.readRegexp cs []).1 = .error e) :
    (Lexer.lexB prev '/' cs).1.ty = .ILLEGAL := by
  rw [Lexer.lexB_slash, if_neg (by rw [hprev]; nofun)]
  split
  next h' => rw [h'] at h; cases h
  · rfl

/-- a lone `&` yields a type-less token -/
theorem C13_lone_operator (prev : TokType) (cs : List Char) :
    (∀ d rest, cs = d :: rest → d ≠ '&') → (Lexer.lexOne prev '&' cs).1.ty = .NONE := by
  intro h
  simp only [Lexer.lexOne, show (('&' : Char) == '&') = true by decide, ↓reduceIte, Lexer.two]
  cases cs with
  | nil => rfl
  | cons d rest =>
    have := h d rest rfl
    simp [this]

/-- a character that starts no token (not a digit, not an identifier character, not an operator)
    yields ILLEGAL -/
theorem C13_illegal_character (prev : TokType) (c : Char) (cs : List Char)
    (hd : Lexer.isDigit c = false) (hi : Lexer.isIdentifier c = false) :
    (Lexer.lexWord prev c cs).1.ty = .ILLEGAL := by
  simp [Lexer.lexWord, hd, Lexer.spanChars, hi]

theorem C13_assign_target (fuel : Nat) (left : Expr) (s : PState) (h : ∀ n, left ≠ .ident n) :
    parseInfix fuel .assign left s = none := by
  cases fuel with
  | zero => rfl
  | succ n =>
    -- the equation of `parseInfix` for a left operand other than `.ident _` has that as a side condition; `simp` finds `h`
    simp only [parseInfix]

theorem C13_local_outside_function (fuel : Nat) (s : PState) (h : s.func = false) :
    parsePrefix fuel .localV s = none := by
  cases fuel with
  | zero => rfl
  | succ n => simp [parsePrefix, h]

theorem C13_nested_ternary (fuel : Nat) (left : Expr) (s : PState) (h : s.tern = true) :
    parseInfix fuel .ternary left s = none := C12.C12_nested_ternary_rejected fuel left s h

/-- the token that ends the input, and ILLEGAL tokens, start no expression -/
theorem C13_no_operand (fuel : Nat) (prec : Nat) (s : PState)
    (h : s.cur.ty = .EOF ∨ s.cur.ty = .ILLEGAL ∨ prefixFn s.cur.ty = none) (hp : isPostfix s.cur.ty = false) :
    parseExpression fuel prec s = none := by
  cases fuel with
  | zero => rfl
  | succ n =>
    have hc : (PState.cur { s with depth := s.depth + 1 }).ty = s.cur.ty := rfl
    simp only [parseExpression, hc, hp, Bool.false_eq_true, ↓reduceIte]
    split
    · rfl  -- the nesting guard
    · -- EOF and ILLEGAL select parselets that fail whatever the fuel; without a parselet `rw` ends with `rfl`
      rcases h with h | h | h <;> rw [h]
      · simp only [prefixFn, parsePrefix_eof]
      · simp only [prefixFn, parsePrefix_illegal]

/-- a missing closing token: `expectPeek` fails in any state whose next token is another one -/
theorem C13_missing_token (s : PState) (t : TokType) (h : s.peek.ty ≠ t) : s.expectPeek t = none := by
  simp [PState.expectPeek, PState.peekIs, h]

open Compiler in
/-- a compound assignment whose target is not a variable never compiles, at any offset and with any
    constant pool / function table (if an operand fails first, that is the error) -/
theorem C13_compound_target (op : Str) (l r : Expr) (base : Nat) (st : CState)
    (hop : isCompound op = true) (hl : ∀ n, l ≠ .ident n) :
    ∃ e, compileExpr (.infix op l r) base st = .error e := by
  simp only [compileExpr, hop, ↓reduceIte, bind, Except.bind]
  cases compileExpr l base st with
  | error e => exact ⟨e, rfl⟩
  | ok a =>
    simp only []
    cases compileExpr r (base + l.size) a.2 with
    | error e => exact ⟨e, rfl⟩
    | ok b =>
      simp only []
      split
      · exact absurd rfl (hl _)
      · exact ⟨_, rfl⟩

open Compiler in
/-- the value of a switch is compiled even when no case would evaluate it: if it does not compile,
    neither does the switch -/
theorem C13_switch_value (v : Expr) (cs : List Case) (base : Nat) (st : CState) (e : CErr)
    (hcs : Case.hasTest cs = false) (hv : compileExpr v base st = .error e) :
    compileExpr (.switchE v cs) base st = .error e := by
  simp [compileExpr, hcs, hv, bind, Except.bind]

theorem C13_compile_error_rejected (script : List Char) (optimize : Bool) (env : VM.Env)
    (fns : List (Str × VM.FnImpl)) (done : Nat → Bool) (ast : Program) (e : Compiler.CErr)
    (hp : parse (Lexer.lex script) = some ast) (hc : Compiler.compileProgram ast = .error e) :
    Api.prepare script optimize env fns done = .error (.compile e) := by
  simp [Api.prepare, hp, hc]

/-- does `Prepare` reject the script (parse error or compile error)? -/
def rejects (script : String) : Bool :=
  match parse (Lexer.lex script.toList) with
  | none => true
  | some ast => match Compiler.compileProgram ast with
    | .error _ => true
    | .ok _ => false

/-- `rejects` on the runes of the script.  (Unfolding `rejects` instead leaves its `match` at the head, which the
    kernel unfolds at once when it checks a rewrite below it, evaluating the script on either side.) -/
def rejectsRunes (script : List Char) : Bool :=
  match parse (Lexer.lex script) with
  | none => true
  | some ast => match Compiler.compileProgram ast with
    | .error _ => true
    | .ok _ => false

/-- invalid fragments deep inside valid constructs (parse-level and compile-level), and their valid twins -/
theorem C13_compile_examples :
    rejects "if (a) { foreach x in xs { y = [1, 3 += 1]; } }" = true ∧
    rejects "function f() { switch ( 3 += 1 ) { default { return 1; } } }" = true ∧
    rejects "function f() { switch ( 3 + 1 ) { default { return 1; } } }" = false ∧
    rejects "if (a) { foreach x in xs { y = [1, z += 1]; } }" = false ∧
    rejects "if (a) { x = true ? (b ? 1 : 2) : 3; }" = true ∧
    rejects "while (a) { local x; }" = true ∧
    rejects "function f() { while (a) { local x; } }" = false := by
  -- the runes instead of the literals, as in `C13_examples`
  simp only [show ∀ s, rejects s = rejectsRunes s.toList from fun _ => rfl]
  repeat rw [String.toList_ofList]
  decide +kernel

end EvalFilter.Props.C13
