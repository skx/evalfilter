/-
  C14 — Literals mean what they spell; layout and comments mean nothing.
-/
import EvalFilter.Proofs.Lexer
import EvalFilter.Props.Tables

namespace EvalFilter.Props.C14
open EvalFilter.Lexer

/-- how to write the rune `c` inside a literal delimited by `q` -/
def escapeChar (q c : Char) : Str :=
  if c == q then ['\\', c]
  else if c == '\\' then ['\\', '\\']
  else if c == '\n' then ['\\', 'n']
  else if c == '\r' then ['\\', 'r']
  else if c == '\t' then ['\\', 't']
  else [c]

def escape (q : Char) (s : Str) : Str := s.flatMap (escapeChar q)

/-- reading back the way `escapeChar` writes a rune yields that rune: `unescape` undoes the table -/
theorem readString_escapeChar (q : Char) (hq : q = '"' ∨ q = '\'') (c : Char) (hc : c ≠ nul)
    (r : List Char) (acc : Str) : readString q (escapeChar q c ++ r) acc = readString q r (acc ++ [c]) := by
  have hqb : q ≠ '\\' := by rcases hq with rfl | rfl <;> decide
  unfold escapeChar
  by_cases h1 : c = q
  · subst h1
    rw [if_pos (beq_self_eq_true c)]
    rcases hq with rfl | rfl <;> exact readString_escaped _ _ r acc (by decide) (by decide) (by decide)
  rw [if_neg (by simpa using h1)]
  by_cases h2 : c = '\\'
  · subst h2
    exact readString_escaped q _ r acc hqb (by decide) (by decide)
  rw [if_neg (by simpa using h2)]
  by_cases h3 : c = '\n'
  · subst h3
    exact readString_escaped q 'n' r acc hqb (by decide) (by decide)
  rw [if_neg (by simpa using h3)]
  by_cases h4 : c = '\r'
  · subst h4
    exact readString_escaped q 'r' r acc hqb (by decide) (by decide)
  rw [if_neg (by simpa using h4)]
  by_cases h5 : c = '\t'
  · subst h5
    exact readString_escaped q 't' r acc hqb (by decide) (by decide)
  rw [if_neg (by simpa using h5)]
  exact readString_plain q c r acc hc h1 h2

/-- A string literal denotes exactly the characters written between its quotes after the escape
    rules: for every text `s` (any Unicode, no NUL) and either quote style, reading the escaped text
    followed by the closing quote yields `s` and stops at the closing quote. -/
theorem C14_string_roundtrip (q : Char) (hq : q = '"' ∨ q = '\'') (s : Str) (hs : ∀ c ∈ s, c ≠ nul)
    (rest : List Char) (acc : Str) :
    readString q (escape q s ++ q :: rest) acc = (some (acc ++ s), q :: rest) := by
  induction s generalizing acc with
  | nil => exact (readString_close q rest acc (by rcases hq with rfl | rfl <;> decide)).trans (by rw [List.append_nil])
  | cons c cs ih =>
    rw [escape, List.flatMap_cons, List.append_assoc, readString_escapeChar q hq c (hs c List.mem_cons_self),
      ← escape, ih fun d hd => hs d (List.mem_cons_of_mem _ hd), List.append_assoc]
    rfl

/-- the escape rules themselves: `\n \r \t \" \\`, backslash-newline continuation, and any other
    escaped character taken literally -/
theorem C14_escape_table (q : Char) (rest : List Char) (acc : Str) (hq : q = '"' ∨ q = '\'') :
    readString q ('\\' :: 'n' :: rest) acc = readString q rest (acc ++ ['\n']) ∧
    readString q ('\\' :: 'r' :: rest) acc = readString q rest (acc ++ ['\r']) ∧
    readString q ('\\' :: 't' :: rest) acc = readString q rest (acc ++ ['\t']) ∧
    readString q ('\\' :: '"' :: rest) acc = readString q rest (acc ++ ['"']) ∧
    readString q ('\\' :: '\\' :: rest) acc = readString q rest (acc ++ ['\\']) ∧
    readString q ('\\' :: '\n' :: rest) acc = readString q rest acc ∧
    readString q ('\\' :: 'x' :: rest) acc = readString q rest (acc ++ ['x']) := by
  have hqb : q ≠ '\\' := by rcases hq with rfl | rfl <;> decide
  refine ⟨?_, ?_, ?_, ?_, ?_, readString_continuation q rest acc hqb, ?_⟩ <;>
    (rw [readString_escaped q _ _ acc hqb (by decide) (by decide)]; rfl)

/-- an unterminated string is not a string token -/
theorem C14_unterminated (q : Char) (s : Str) (hs : ∀ c ∈ s, c ≠ q ∧ c ≠ '\\' ∧ c ≠ nul) (acc : Str) :
    (readString q s acc).1 = none := by
  induction s generalizing acc with
  | nil => simp [readString]
  | cons c cs ih =>
    have ⟨h1, h2, h3⟩ := hs c (by simp)
    rw [readString_plain q c cs acc h3 h1 h2]
    exact ih (fun d hd => hs d (by simp [hd])) _

theorem digitsToNat_snoc (s : Str) (d : Char) :
    FloatConv.digitsToNat (s ++ [d]) = 10 * FloatConv.digitsToNat s + FloatConv.digitVal d := by
  simp [FloatConv.digitsToNat, List.foldl_append, Nat.mul_comm]

/-- an integer literal denotes its decimal value; one that does not fit int64 is rejected -/
theorem C14_int_value (lit : Str) (h : lit ≠ []) :
    Parser.parseIntLit lit =
      if FloatConv.digitsToNat lit < 2 ^ 63 then some (Int64.ofNat (FloatConv.digitsToNat lit)) else none := by
  cases lit with
  | nil => exact absurd rfl h
  | cons _ _ => simp [Parser.parseIntLit]

/-- `/` divides after the token types of `slashDivAfter` (those of lexer.go: `C14_slash_table`) and opens a regexp
    after any other -/
theorem C14_slash_is_division (prev : TokType) (cs : List Char) (h : slashDivAfter.contains prev = true)
    (hc : cs.head? ≠ some '=') : (lexOne prev '/' cs).1 = ⟨.SLASH, ['/']⟩ := by
  rw [lexOne_slash, lexB_slash, if_pos h, two.eq_def]
  split
  · rw [if_neg (by simpa using hc)]
  · rfl

theorem C14_slash_is_regexp (prev : TokType) (cs : List Char) (h : slashDivAfter.contains prev = false) :
    (lexOne prev '/' cs).1.ty = .REGEXP ∨ (lexOne prev '/' cs).1.ty = .ILLEGAL := by
  rw [lexOne_slash, lexB_slash, if_neg (by rw [h]; nofun)]
  split
  · exact .inl rfl
  · exact .inr rfl

theorem C14_slash_table : ∀ t ∈ TokType.all, slashDivAfter.contains t = Spec.Tables.slashDivAfter.contains t.name :=
  Props.Tables.model_slashDivAfter

def isBlankRun (ws : List Char) : Prop := ∀ c ∈ ws, isWhitespace c = true

theorem skipWs_append_blank (ws r : List Char) (h : isBlankRun ws) : skipWs (ws ++ r) = skipWs r := by
  induction ws with
  | nil => rfl
  | cons c cs ih =>
    have hc : isWhitespace c = true := h c (by simp)
    simp only [List.cons_append, skipWs, hc, ↓reduceIte]
    exact ih (fun d hd => h d (by simp [hd]))

/-- whitespace in front of a token is skipped: `skipBlank`, at equal fuel, gives the same on `ws ++ r` as on `r` -/
theorem C14_leading_whitespace (ws r : List Char) (p : TokType) (h : isBlankRun ws) (fuel : Nat) :
    skipBlank (fuel + 1) (ws ++ r) = skipBlank (fuel + 1) r := by
  simp only [skipBlank, skipWs_append_blank ws r h]

/-- a `//` comment up to the end of its line is skipped like whitespace (`skipBlank` spends one unit of fuel on it) -/
theorem C14_comment_skipped (body r : List Char) (hb : ∀ c ∈ body, c ≠ '\n' ∧ c ≠ nul) (fuel : Nat) :
    skipBlank (fuel + 2) ('/' :: '/' :: body ++ '\n' :: r) = skipBlank (fuel + 1) r := by
  have hline := skipLine_append ('/' :: '/' :: body) r
    (List.forall_mem_cons.mpr ⟨by decide, List.forall_mem_cons.mpr ⟨by decide, hb⟩⟩)
  have hws : ∀ l, skipWs ('/' :: l) = '/' :: l := fun l => by rw [skipWs, if_neg (by decide)]
  have hnl : skipWs ('\n' :: r) = skipWs r := by rw [skipWs, if_pos (by decide)]
  rw [skipBlank]
  simp only [List.cons_append, hws] at hline ⊢
  -- what is left is `skipBlank (fuel + 1) (skipWs r)`: both sides begin with `skipWs`, which is idempotent
  rw [hline, hnl, skipBlank, skipBlank, skipWs_idem]

/-- each call of `NextToken` consumes at least one rune while there is input -/
theorem C14_next_token_progress (s : LexSt) (h : s.rest ≠ []) :
    (nextToken s).2.rest.length < s.rest.length := nextToken_progress s h

/-- so tokenisation terminates for every input: the token list is never longer than the input plus the final EOF -/
theorem C14_tokenisation_terminates (input : List Char) : (lex input).length ≤ input.length + 1 :=
  lexAll_length_le ⟨input, .NONE⟩

theorem C14_keywords : keywords.map (fun (k, t) => (String.ofList k, t.name)) = Spec.Tables.keywords :=
  Props.Tables.model_keywords

example : readString '"' ['a', '\\', '"', 'b', '"', ';'] [] = (some ['a', '"', 'b'], ['"', ';']) := by
  have := C14_string_roundtrip '"' (Or.inl rfl) ['a', '"', 'b'] (by decide) [';'] []
  simpa [escape, escapeChar] using this

end EvalFilter.Props.C14
