/-
  Soundness of the byte-code verifier with respect to the VM model, one instruction at a time, and of its
  static part for whole runs.  `step_sound` is the one traversal of `VM.step`: each of the VM's internal
  errors has its cause (an unknown opcode none), and a continuation has a successor and a depth that `succs`,
  `pops` and `pushes` predict.  The stack part is in `WFStack`.
-/
import EvalFilter.Proofs.VMFrame

namespace EvalFilter.WF
open EvalFilter.VM

def internalStatic (r : Res) : Prop :=
  r = err "unknownOpcode" ∨ r = err "ipOOB" ∨ r = err "badConstant"

theorem popN_eq_none {n : Nat} {s : List Value} : popN n s = none ↔ s.length < n := by
  simp [popN]

theorem popN_eq_some {n : Nat} {s a rest : List Value} :
    popN n s = some (a, rest) ↔ n ≤ s.length ∧ a = (s.take n).reverse ∧ rest = s.drop n := by
  simp [popN, eq_comm]

/-- the stack holds at least `d` values - or, when `a` says that the instruction before this one in the
    body is an OpIterationNext (`afterIterNext` of `succs`) and it found the iteration exhausted, one fewer
    with `false` on top (the iterator is gone; the conditional jump that follows takes its jump) -/
def Depth (a : Bool) (d : Nat) (stack : List Value) : Prop :=
  d ≤ stack.length ∨ (a = true ∧ stack.head? = some (.bool false) ∧ d ≤ stack.length + 1)

theorem Depth_mono {a : Bool} {d c : Nat} {s : List Value} (h : Depth a d s) (hc : c ≤ d) : Depth a c s := by
  rcases h with h | ⟨h1, h2, h3⟩
  · left; omega
  · right; exact ⟨h1, h2, by omega⟩

/-- no built-in or host function of the table returns the value-less result, whatever its arguments
    (`print` and `printf` do: a table that binds them does not qualify) -/
def NoVoidFns (M : Machine) : Prop :=
  ∀ name f args, lookupFn M name = some f → (callImpl name f args).res ≠ .val .void

def CalleeResult (M : Machine) (runBody : Bytes → RunSt → Res × RunSt) (r : Res) : Prop :=
  ∃ uf s, uf ∈ M.funcs ∧ r = (runBody uf.code s).1

/-- the proviso of C18 for one instruction (`CallsReturnValues` is this for the runs of `loop`) -/
def ReturnsValues (M : Machine) (runBody : Bytes → RunSt → Res × RunSt) : Prop :=
  NoVoidFns M ∧ ∀ v, CalleeResult M runBody (.ok v) → v.isType .VOID = false

theorem invoke_result {M : Machine} {runBody : Bytes → RunSt → Res × RunSt} {uf : UserFn} {args : List Value}
    {st st' : RunSt} {r : Res} (hm : uf ∈ M.funcs) (h : invoke runBody uf args st = (r, st')) :
    CalleeResult M runBody r ∨ ∃ e, r = .error e ∧ OpErr e := by
  unfold invoke at h
  split at h
  · cases h; exact .inr ⟨_, rfl, by simp [OpErr, loopClasses]⟩
  split at h
  · cases h; exact .inr ⟨_, rfl, by simp [OpErr, loopClasses]⟩
  split at h
  · cases h; exact .inr ⟨_, rfl, by simp [OpErr, loopClasses]⟩
  · cases h; exact .inl ⟨uf, _, hm, rfl⟩

theorem succs_target {i : Instr} {next : Nat} {a : Bool} {d t x : Nat} (h : (t, x) ∈ succs i next a d) :
    t = next ∨ ((i.op = .jump ∨ i.op = .jumpIfFalse) ∧ t = i.arg) := by
  unfold succs at h
  split at h <;> simp at h
  · right; exact ⟨Or.inl (by assumption), h.1⟩
  · rcases h with h | h
    · left; exact h.1
    · right; exact ⟨Or.inr (by assumption), h.1⟩
  · left; exact h.1

theorem succs_mono {i : Instr} {next : Nat} {a : Bool} {d d' t x : Nat} (hd : d ≤ d')
    (h : (t, x) ∈ succs i next a d') : ∃ y, (t, y) ∈ succs i next a d ∧ y ≤ x := by
  unfold succs at h ⊢
  split at h <;> simp only [List.mem_cons, List.not_mem_nil, Prod.mk.injEq, or_false] at h ⊢
  · exact ⟨d, ⟨h.1, rfl⟩, by omega⟩
  · rcases h with ⟨rfl, rfl⟩ | ⟨rfl, rfl⟩
    · exact ⟨d, .inl ⟨rfl, rfl⟩, hd⟩
    · exact ⟨_, .inr ⟨rfl, rfl⟩, by split <;> omega⟩
  · exact ⟨d, ⟨h.1, rfl⟩, by omega⟩

/-- What one instruction does, as far as the verifier's conditions go: it ends the run with one of the VM's
    internal errors only for that error's cause - or hands on what a called body returned -, and it continues at
    a successor of `succs` with at least the depth `pops` and `pushes` predict there (provided calls return
    values).  This holds for either value of `a`: the stack is as deep as it is, and `a = true` only lowers what
    `succs` asks for on the jump edge. -/
def Sound (M : Machine) (runBody : Bytes → RunSt → Res × RunSt) (codeLen : Nat) (i : Instr) (next : Nat) (a : Bool)
    (stack : List Value) : StepOut → Prop
  | .halt r _ => CalleeResult M runBody r ∨
      r ≠ err "unknownOpcode" ∧ (r = err "underflow" → stack.length < pops i) ∧
      (r = err "ipOOB" → (i.op = .jump ∨ i.op = .jumpIfFalse) ∧ codeLen ≤ i.arg) ∧
      (r = err "badConstant" →
        (i.op = .constant ∨ i.op = .lookup ∨ i.op = .inc ∨ i.op = .dec) ∧ M.consts.length ≤ i.arg)
  | .cont ip' stack' _ => pops i ≤ stack.length ∧
      ∃ x, (ip', x) ∈ succs i next a (stack.length - pops i + pushes i) ∧
        (ReturnsValues M runBody → Depth (i.op == .iterationNext) x stack')

theorem Sound.clean {M : Machine} {runBody : Bytes → RunSt → Res × RunSt} {codeLen : Nat} {i : Instr} {next : Nat}
    {a : Bool} {stack : List Value} {e : Err} {st : RunSt} (h : OpErr e) :
    Sound M runBody codeLen i next a stack (.halt (.error e) st) := by
  simp [Sound, err, h.not_internal]

theorem binary_depth {op : Op} (h : isBinary op = true) (arg : Nat) :
    pops ⟨op, arg⟩ = 2 ∧ pushes ⟨op, arg⟩ = 1 ∧ (∀ next a d, succs ⟨op, arg⟩ next a d = [(next, d)]) ∧
      (op == .iterationNext) = false := by
  cases op <;> simp only [isBinary, Bool.false_eq_true] at h <;> exact ⟨rfl, rfl, fun _ _ _ => rfl, rfl⟩

attribute [local grind →] lookup_err indexOp_err minusOp_err sqrtOp_err rangeOp_err callMatch_err buildHash_err in
/-- One traversal of `step`: the binary operators at once, as `step` takes them, then opcode by opcode, with
    the stack destructured as deep as the instruction looks at it (`pops i`), so that every `match` on it
    reduces. -/
theorem step_sound (M : Machine) (obj : HostVal) (codeLen : Nat) (runBody : Bytes → RunSt → Res × RunSt)
    (i : Instr) (next : Nat) (stack : List Value) (st : RunSt) (a : Bool) :
    Sound M runBody codeLen i next a stack (step M obj codeLen runBody i.op.toNat i.arg next stack st) := by
  obtain ⟨op, arg⟩ := i
  unfold step
  rw [Op.ofNat_toNat]
  by_cases hb : isBinary op = true
  · simp only [hb, ↓reduceIte]
    obtain ⟨hpop, hpush, hsucc, hiter⟩ := binary_depth hb arg
    rcases stack with _ | ⟨r, _ | ⟨l, rest⟩⟩ <;> dsimp only
    · simp [Sound, err, hpop]
    · simp [Sound, err, hpop]
    · split
      · exact .clean (binop_err ‹_›)
      · simp [Sound, hpop, hpush, hsucc, hiter, Depth]
  cases op <;> simp only [isBinary, not_true_eq_false] at hb <;> simp only [isBinary, Bool.false_eq_true, ↓reduceIte]
  case call =>
    rcases stack with _ | ⟨fname, rest0⟩ <;> dsimp only <;> repeat' split
    all_goals try (simp_all [Sound, err, pops, pushes, succs, Depth, popN_eq_none, popN_eq_some]; done)
    · -- a built-in or host function returned the value-less result
      have hno : ¬ ReturnsValues M runBody := fun h => h.1 _ _ _ ‹_› ‹_›
      simp_all [Sound, pops, pushes, succs, popN_eq_some]
    · -- the error is the callee's
      rcases invoke_result (lookupUser_mem ‹_›) ‹_› with h | ⟨_, h, hc⟩
      · exact .inl h
      · cases h; exact .clean hc
    · -- the callee returned the value-less result
      rcases invoke_result (lookupUser_mem ‹_›) ‹_› with h | ⟨_, h, _⟩
      · have hno : ¬ ReturnsValues M runBody := fun hr => Bool.false_ne_true ((hr.2 _ h).symm.trans ‹_›)
        simp_all [Sound, pops, pushes, succs, popN_eq_some]
      · cases h
  case jumpIfFalse =>
    -- the depth on its jump edge depends on the flag
    cases a <;> rcases stack with _ | ⟨c, rest⟩ <;> dsimp only <;> (repeat' split) <;>
      simp_all [Sound, err, pops, pushes, succs, Depth]
  case' set | case | index | range => rcases stack with _ | ⟨x, _ | ⟨y, rest⟩⟩ <;> dsimp only
  case' «local» | bang | minus | squareRoot | «return» | iterationReset | inc | dec =>
    rcases stack with _ | ⟨x, rest⟩ <;> dsimp only
  case' iterationNext => rcases stack with _ | ⟨x, _ | ⟨y, _ | ⟨z, rest⟩⟩⟩ <;> dsimp only
  all_goals repeat' split
  all_goals first
    | (simp [Sound, err, pops, pushes, succs, Depth]; done)
    | exact .clean (by grind)   -- the error of an operator or helper
    | (simp_all [Sound, err, pops, pushes, succs, Depth, popN_eq_none, popN_eq_some]; done)

/-- declarative form of the static checks on one body, as far as the three decode errors need them: the
    verifier's checks of constant kinds and of function bodies falling off their end are not in it -/
structure StaticOk (nconsts : Nat) (code : Bytes) (instrs : List (Nat × Instr)) : Prop where
  decoded : decode 0 code = some instrs
  jumps : ∀ o i, (o, i) ∈ instrs → (i.op = .jump ∨ i.op = .jumpIfFalse) → ∃ j, (i.arg, j) ∈ instrs
  consts : ∀ o i, (o, i) ∈ instrs → (i.op = .constant ∨ i.op = .lookup ∨ i.op = .inc ∨ i.op = .dec) → i.arg < nconsts

def StepOk (i : Instr) (next : Nat) : StepOut → Prop
  | .halt r _ => ¬ internalStatic r
  | .cont ip' _ _ => ip' = next ∨ ((i.op = .jump ∨ i.op = .jumpIfFalse) ∧ ip' = i.arg)

theorem step_static (M : Machine) (obj : HostVal) (codeLen : Nat) (runBody : Bytes → RunSt → Res × RunSt)
    (i : Instr) (next : Nat) (stack : List Value) (st : RunSt)
    (hjump : (i.op = .jump ∨ i.op = .jumpIfFalse) → i.arg < codeLen)
    (hconst : (i.op = .constant ∨ i.op = .lookup ∨ i.op = .inc ∨ i.op = .dec) → i.arg < M.consts.length)
    (hrun : ∀ uf, uf ∈ M.funcs → ∀ s, ¬ internalStatic (runBody uf.code s).1) :
    StepOk i next (step M obj codeLen runBody i.op.toNat i.arg next stack st) := by
  have h := step_sound M obj codeLen runBody i next stack st false
  revert h
  generalize step M obj codeLen runBody i.op.toNat i.arg next stack st = out
  intro h
  cases out with
  | halt r st' =>
    rcases h with ⟨uf, s, hm, rfl⟩ | ⟨h0, -, h2, h3⟩
    · exact hrun uf hm s
    · rintro (rfl | rfl | rfl)
      · exact h0 rfl
      · have := h2 rfl; have := hjump this.1; omega
      · have := h3 rfl; have := hconst this.1; omega
  | cont ip' stack' st' =>
    obtain ⟨-, x, hs, -⟩ := h
    exact succs_target hs

theorem start_of_static {n : Nat} {code : Bytes} {instrs : List (Nat × Instr)} (h : StaticOk n code instrs) :
    0 = code.length ∨ ∃ i, (0, i) ∈ instrs := by
  rcases decode_first h.decoded with ⟨rfl, -⟩ | ⟨i, l, rfl⟩
  · exact .inl rfl
  · exact .inr ⟨i, List.mem_cons_self ..⟩

/-- **Static soundness.**  In a machine all of whose function bodies pass the static checks, a run of any body
    that passes them, from any instruction start, never ends in "unknown opcode", "instruction pointer out of
    bounds" or "bad constant" - at any call depth. -/
theorem loop_static (M : Machine) (obj : HostVal)
    (hfuncs : ∀ uf, uf ∈ M.funcs → ∃ instrs, StaticOk M.consts.length uf.code instrs) :
    ∀ (fuel : Nat) (code : Bytes) (instrs : List (Nat × Instr)), StaticOk M.consts.length code instrs →
      ∀ (ip : Nat) (stack : List Value) (st : RunSt), (ip = code.length ∨ ∃ i, (ip, i) ∈ instrs) →
        ¬ internalStatic (loop M obj code fuel ip stack st).1 := by
  intro fuel
  induction fuel with
  | zero => intro code instrs _ ip stack st _; simp [loop, internalStatic, err]
  | succ n ih =>
    intro code instrs hs ip stack st hip
    rcases hip with rfl | ⟨i, hi⟩
    · simp [loop, internalStatic, err]
    obtain ⟨hf, hnext⟩ := decode_spec hs.decoded hi
    rw [loop_fetch M obj hf]
    split
    · simp [internalStatic, err]
    have hst := step_static M obj code.length (fun c s => loop M obj c n 0 [] s) i (ip + i.op.length) stack
      { st with polls := st.polls + 1 }
      (fun hj => by
        obtain ⟨j, hj'⟩ := hs.jumps ip i hi hj
        exact (decode_spec hs.decoded hj').1.lt)
      (hs.consts ip i hi)
      (fun uf huf s => by
        obtain ⟨fi, hfi⟩ := hfuncs uf huf
        exact ih uf.code fi hfi 0 [] s (start_of_static hfi))
    split
    · rename_i ip' stack' st' heq
      rw [heq] at hst
      apply ih code instrs hs
      rcases hst with rfl | ⟨hj, rfl⟩
      · exact hnext
      · exact .inr (hs.jumps ip i hi hj)
    · rename_i r st' heq
      rw [heq] at hst
      exact hst

theorem run_static_of (M : Machine) {mi : List (Nat × Instr)} (hm : StaticOk M.consts.length M.main mi)
    (hfuncs : ∀ uf, uf ∈ M.funcs → ∃ instrs, StaticOk M.consts.length uf.code instrs)
    (obj : HostVal) (fuel : Nat) (st : RunSt) : ¬ internalStatic (run M obj fuel st).1 := by
  unfold run
  split
  · simp [internalStatic, err]
  · exact loop_static M obj hfuncs fuel M.main mi hm 0 [] st (start_of_static hm)

end EvalFilter.WF
