/-
  From validated steps to whole machines (C03).  Every body of a machine follows the trace of `optimize` that
  `OptCheck.fullTrace` replays, all of them advancing one validated step per stage (`atStage`); consecutive
  stages cannot be told apart by a run that ends (`atStage_step`), hence neither can the first and the last.
-/
import EvalFilter.Proofs.OptSim3

namespace EvalFilter.OptSim
open EvalFilter.VM EvalFilter.OptCheck

/-- every run of `M` that ends is matched by a run of `M'` that ends with the same result, output and
    variables (poll counts aside) -/
def Refines (M M' : Machine) (obj : HostVal) : Prop :=
  ∀ f st st', StEq false st st' → (run M obj f st).1 ≠ .error .outOfFuel →
    ∃ f', OutEq false (run M obj f st) (run M' obj f' st')

theorem Refines.trans {A B C : Machine} {obj : HostVal} (h : Refines A B obj) (h' : Refines B C obj) : Refines A C obj := by
  intro f st st' hst hno
  obtain ⟨f1, h1⟩ := h f st st' hst hno
  have hno1 : (run B obj f1 st').1 ≠ .error .outOfFuel := by rw [← h1.1]; exact hno
  obtain ⟨f2, h2⟩ := h' f1 st' st' (StEq.refl _ _) hno1
  exact ⟨f2, h1.trans h2⟩

theorem run_refines {M M' : Machine} {obj : HostVal} (hM : MRel (CRel M M' obj) M M')
    (hmain : CRel M M' obj M.main M'.main) (hnd : NeverDone M) : Refines M M' obj := by
  intro f st st' hst hno
  obtain ⟨R, hB⟩ := hmain
  unfold run at hno ⊢
  by_cases hemp : M.main.isEmpty = true
  · refine ⟨0, ?_⟩
    simp only [hemp, hB.empty, ↓reduceIte]
    exact ⟨rfl, hst⟩
  · simp only [hemp, hB.empty, Bool.false_eq_true, ↓reduceIte] at hno ⊢
    obtain ⟨f', h1, h2⟩ := Corr.sim hM hnd f M.main M'.main R hB _ 0 0 rfl hB.start [] st st' hst hno
    refine ⟨f', h1, ?_⟩
    simp only [finish, hst.1]
    exact ⟨by rw [h2.1], h2.2.1, h2.2.2.1, h2.2.2.2⟩

/-- one stage of a body: one validated step of one of the four passes, or none - all bodies of a machine move
    together (`MRel` relates the machines as wholes), so a body whose trace is shorter waits, and to correspond
    to itself it has to be well-formed (`bodySim_id`) -/
def Step1 (c c' : Bytes) : Prop := (c' = c ∧ wfB c = true) ∨ okStep c c' = true

theorem Step1.brel {M M' : Machine} {obj : HostVal} {c c' : Bytes} (hnd : NeverDone M) (hnd' : NeverDone M')
    (h : Step1 c c') : BRel M M' obj c c' := by
  rcases h with ⟨rfl, h⟩ | h
  · exact bodySim_id h
  · unfold okStep at h
    simp only [Bool.or_eq_true] at h
    rcases h with (h | h) | h
    · exact validStep_sound hnd hnd' h
    · exact validStrip_sound hnd h
    · exact validDead_sound h

/-- the machine whose bodies are at stage `t` of their rewriting (`S b t` for the body that started as `b`) -/
def atStage (M : Machine) (S : Bytes → Nat → Bytes) (t : Nat) : Machine :=
  { M with main := S M.main t, funcs := M.funcs.map (fun u => { u with code := S u.code t }) }

theorem lookupUser_atStage (M : Machine) (S : Bytes → Nat → Bytes) (t : Nat) (name : Str) :
    lookupUser (atStage M S t) name = (lookupUser M name).map (fun u => { u with code := S u.code t }) := by
  unfold lookupUser atStage
  rw [← List.map_reverse, List.find?_map]
  rfl

theorem atStage_step (M : Machine) (obj : HostVal) (S : Bytes → Nat → Bytes) (hnd : NeverDone M)
    (hS : ∀ b, (b = M.main ∨ ∃ u, u ∈ M.funcs ∧ u.code = b) → ∀ t, Step1 (S b t) (S b (t + 1))) (t : Nat) :
    Refines (atStage M S t) (atStage M S (t + 1)) obj ∧ Refines (atStage M S (t + 1)) (atStage M S t) obj := by
  have hnd1 : NeverDone (atStage M S t) := hnd
  have hnd2 : NeverDone (atStage M S (t + 1)) := hnd
  have hB : ∀ b, (b = M.main ∨ ∃ u, u ∈ M.funcs ∧ u.code = b) →
      CRel (atStage M S t) (atStage M S (t + 1)) obj (S b t) (S b (t + 1)) := fun b hb =>
    let ⟨R, h⟩ := (hS b hb t).brel hnd1 hnd2
    ⟨R, h.corr⟩
  have hM : MRel (CRel (atStage M S t) (atStage M S (t + 1)) obj) (atStage M S t) (atStage M S (t + 1)) := by
    refine ⟨rfl, rfl, rfl, fun name => ?_⟩
    rw [lookupUser_atStage, lookupUser_atStage]
    cases h : lookupUser M name with
    | none => exact Or.inl ⟨rfl, rfl⟩
    | some u =>
      obtain ⟨R, hR⟩ := hB u.code (Or.inr ⟨u, lookupUser_mem h, rfl⟩)
      exact Or.inr ⟨_, _, rfl, rfl, rfl, ⟨R, hR⟩, hR.empty⟩
  exact ⟨run_refines hM (hB M.main (Or.inl rfl)) hnd1, run_refines hM.symm_corr (hB M.main (Or.inl rfl)).symm hnd2⟩

theorem atStage_refines (M : Machine) (obj : HostVal) (S : Bytes → Nat → Bytes) (hnd : NeverDone M)
    (hS : ∀ b, (b = M.main ∨ ∃ u, u ∈ M.funcs ∧ u.code = b) → ∀ t, Step1 (S b t) (S b (t + 1))) :
    ∀ t, Refines (atStage M S 0) (atStage M S (t + 1)) obj ∧ Refines (atStage M S (t + 1)) (atStage M S 0) obj
  | 0 => atStage_step M obj S hnd hS 0
  | t + 1 =>
    ⟨(atStage_refines M obj S hnd hS t).1.trans (atStage_step M obj S hnd hS (t + 1)).1,
     (atStage_step M obj S hnd hS (t + 1)).2.trans (atStage_refines M obj S hnd hS t).2⟩

def ValidChain : Bytes → List Bytes → Prop
  | _, [] => True
  | b, x :: r => okStep b x = true ∧ ValidChain x r

theorem lastOf_nil (b : Bytes) : lastOf b [] = b := rfl
theorem lastOf_cons (b x : Bytes) (r : List Bytes) : lastOf b (x :: r) = lastOf x r := by
  simp [lastOf, List.getLast_cons]

theorem lastOf_append (b : Bytes) : ∀ (L1 L2 : List Bytes), lastOf b (L1 ++ L2) = lastOf (lastOf b L1) L2
  | [], L2 => rfl
  | x :: r, L2 => by rw [List.cons_append, lastOf_cons, lastOf_cons, lastOf_append x r L2]

theorem ValidChain.append : ∀ {b : Bytes} {L1 L2 : List Bytes}, ValidChain b L1 → ValidChain (lastOf b L1) L2 →
    ValidChain b (L1 ++ L2)
  | _, [], _, _, h2 => h2
  | b, x :: r, L2, h1, h2 => ⟨h1.1, ValidChain.append h1.2 (by rwa [lastOf_cons] at h2)⟩

theorem mathsTrace_spec : ∀ (f : Nat) (b : Bytes) (L : List Bytes), mathsTrace f b = some L →
    ValidChain b L ∧ lastOf b L = Optimizer.mathsLoop f b
  | 0, b, L, h => by simp [mathsTrace] at h; subst h; exact ⟨trivial, rfl⟩
  | f + 1, b, L, h => by
    simp only [mathsTrace] at h
    simp only [Optimizer.mathsLoop]
    cases hw : Optimizer.mathsWalk (b.length + 1) b 0 [] with
    | unchanged | error => simp [hw] at h; subst h; exact ⟨trivial, rfl⟩
    | changed b' =>
      simp only [hw] at h ⊢
      by_cases hv : validStep b b' = true
      · simp only [hv, ↓reduceIte, Option.map_eq_some_iff] at h
        obtain ⟨L', hL', rfl⟩ := h
        obtain ⟨h1, h2⟩ := mathsTrace_spec f b' L' hL'
        exact ⟨⟨by simp [okStep, hv], h1⟩, by rw [lastOf_cons, h2]⟩
      · simp [hv] at h

theorem jumpsTrace_spec : ∀ (f : Nat) (b : Bytes) (L : List Bytes), jumpsTrace f b = some L →
    ValidChain b L ∧ lastOf b L = Optimizer.jumpsLoop f b
  | 0, b, L, h => by simp [jumpsTrace] at h; subst h; exact ⟨trivial, rfl⟩
  | f + 1, b, L, h => by
    simp only [jumpsTrace] at h
    simp only [Optimizer.jumpsLoop]
    cases hw : Optimizer.jumpsWalk (b.length + 1) b 0 Op.nop.toNat with
    | none => simp [hw] at h; subst h; exact ⟨trivial, rfl⟩
    | some b' =>
      simp only [hw] at h ⊢
      by_cases hv : validStep b b' = true
      · simp only [hv, ↓reduceIte, Option.map_eq_some_iff] at h
        obtain ⟨L', hL', rfl⟩ := h
        obtain ⟨h1, h2⟩ := jumpsTrace_spec f b' L' hL'
        exact ⟨⟨by simp [okStep, hv], h1⟩, by rw [lastOf_cons, h2]⟩
      · simp [hv] at h

def rewritten (b : Bytes) : Bytes :=
  let b1 := Optimizer.mathsLoop (b.length + 1) b
  Optimizer.jumpsLoop (b1.length + 1) b1

theorem rewriteTrace_spec (b : Bytes) (L : List Bytes) (h : rewriteTrace b = some L) :
    ValidChain b L ∧ lastOf b L = rewritten b := by
  unfold rewriteTrace at h
  by_cases hwf : wfB b = true
  · simp only [hwf, ↓reduceIte] at h
    cases h1 : mathsTrace (b.length + 1) b with
    | none => simp [h1] at h
    | some L1 =>
      simp only [h1] at h
      obtain ⟨c1, e1⟩ := mathsTrace_spec _ b L1 h1
      cases h2 : jumpsTrace ((lastOf b L1).length + 1) (lastOf b L1) with
      | none => simp [h2] at h
      | some L2 =>
        simp only [h2] at h
        obtain ⟨c2, e2⟩ := jumpsTrace_spec _ _ L2 h2
        by_cases hw2 : wfB (lastOf (lastOf b L1) L2) = true
        · simp only [hw2, ↓reduceIte, Option.some.injEq] at h
          subst h
          refine ⟨c1.append c2, ?_⟩
          rw [lastOf_append, e2, e1]; rfl
        · simp [hw2] at h
  · simp [hwf] at h

theorem ValidChain.snoc_opt {b : Bytes} {L : List Bytes} (h : ValidChain b L) (x : Bytes)
    (hx : x = lastOf b L ∨ okStep (lastOf b L) x = true) :
    ValidChain b (L ++ (if x = lastOf b L then [] else [x])) ∧
      lastOf b (L ++ (if x = lastOf b L then [] else [x])) = x := by
  by_cases he : x = lastOf b L
  · rw [if_pos he, List.append_nil]
    exact ⟨h, he.symm⟩
  · rw [if_neg he]
    refine ⟨h.append ⟨hx.resolve_left he, trivial⟩, ?_⟩
    rw [lastOf_append, lastOf_cons, lastOf_nil]

theorem fullTrace_spec (b : Bytes) (L : List Bytes) (h : fullTrace b = some L) :
    ValidChain b L ∧ wfB (lastOf b L) = true ∧ lastOf b L = Optimizer.optimize b := by
  unfold fullTrace at h
  cases hr : rewriteTrace b with
  | none => simp [hr] at h
  | some L0 =>
    obtain ⟨c0, e0⟩ := rewriteTrace_spec b L0 hr
    simp only [hr] at h
    split at h
    · rename_i hc
      simp only [Bool.and_eq_true, Bool.or_eq_true, decide_eq_true_eq] at hc
      obtain ⟨⟨h3, h4⟩, hw⟩ := hc
      cases h
      have s3 := c0.snoc_opt (Optimizer.removeNOPs (lastOf b L0))
        (h3.imp id fun h => by simp [okStep, h])
      have s4 := s3.1.snoc_opt (Optimizer.removeDeadCode (Optimizer.removeNOPs (lastOf b L0)))
        (by rw [s3.2]; exact h4.imp id fun h => by simp [okStep, h])
      rw [s3.2] at s4
      refine ⟨s4.1, by rw [s4.2]; exact hw, ?_⟩
      rw [s4.2, e0]
      rfl
    · cases h

theorem stageAt_zero (L : List Bytes) (b : Bytes) : stageAt L b 0 = b := by cases L <;> rfl
theorem stageAt_succ (x : Bytes) (r : List Bytes) (b : Bytes) (t : Nat) : stageAt (x :: r) b (t + 1) = stageAt r x t := rfl

theorem stage_step : ∀ (L : List Bytes) (b : Bytes), ValidChain b L → wfB (lastOf b L) = true →
    ∀ t, Step1 (stageAt L b t) (stageAt L b (t + 1))
  | [], b, _, hw, t => by
    cases t <;> exact Or.inl ⟨rfl, hw⟩
  | x :: r, b, hc, hw, 0 => by
    rw [stageAt_zero, stageAt_succ, stageAt_zero]
    exact Or.inr hc.1
  | x :: r, b, hc, hw, t + 1 => by
    rw [stageAt_succ, stageAt_succ]
    exact stage_step r x hc.2 (by rwa [lastOf_cons] at hw) t

theorem stageAt_last : ∀ (L : List Bytes) (b : Bytes) (t : Nat), L.length ≤ t → stageAt L b t = lastOf b L
  | [], b, t, _ => by cases t <;> rfl
  | x :: r, b, 0, h => by simp at h
  | x :: r, b, t + 1, h => by
    rw [stageAt_succ, lastOf_cons]
    exact stageAt_last r x t (by simpa using h)

def stageFn (b : Bytes) (t : Nat) : Bytes :=
  match fullTrace b with
  | some L => stageAt L b t
  | none => b

def traceLen (b : Bytes) : Nat := match fullTrace b with | some L => L.length | none => 0

theorem stageFn_zero (b : Bytes) : stageFn b 0 = b := by
  unfold stageFn; cases fullTrace b <;> simp [stageAt_zero]

theorem stageFn_step (b : Bytes) (h : (fullTrace b).isSome = true) (t : Nat) : Step1 (stageFn b t) (stageFn b (t + 1)) := by
  unfold stageFn
  cases hr : fullTrace b with
  | none => simp [hr] at h
  | some L =>
    obtain ⟨hc, hw, _⟩ := fullTrace_spec b L hr
    exact stage_step L b hc hw t

theorem stageFn_last (b : Bytes) (h : (fullTrace b).isSome = true) (t : Nat) (ht : traceLen b ≤ t) :
    stageFn b t = Optimizer.optimize b := by
  unfold stageFn traceLen at *
  cases hr : fullTrace b with
  | none => simp [hr] at h
  | some L =>
    simp only [hr] at ht ⊢
    obtain ⟨_, _, e⟩ := fullTrace_spec b L hr
    rw [stageAt_last L b t ht, e]

/-- the machine `vm.New` builds when it optimises: every body run through `optimize` -/
def optMachine (M : Machine) : Machine :=
  { M with main := Optimizer.optimize M.main, funcs := M.funcs.map (fun u => { u with code := Optimizer.optimize u.code }) }

/-- **The optimizer preserves every finished run and adds none**, for every machine all of whose bodies'
    optimisation steps validate: any number of steps of the four passes, in the main program and in every
    function body, at any call depth, cannot be observed by a run that ends: the optimised machine ends with the
    same result (value, error or panic), the same output (host-call markers included) and the same variables,
    and conversely. -/
theorem optimize_refines (M : Machine) (obj : HostVal) (hnd : NeverDone M)
    (hmain : (fullTrace M.main).isSome = true)
    (hfuncs : ∀ u, u ∈ M.funcs → (fullTrace u.code).isSome = true) :
    Refines M (optMachine M) obj ∧ Refines (optMachine M) M obj := by
  -- the longest trace: a body with a shorter one waits in its last stage (`Step1`, first alternative)
  let T := ((M.main :: M.funcs.map (·.code)).map traceLen).max?.getD 0
  have hS : ∀ b, (b = M.main ∨ ∃ u, u ∈ M.funcs ∧ u.code = b) → ∀ t, Step1 (stageFn b t) (stageFn b (t + 1)) := by
    intro b hb t
    rcases hb with rfl | ⟨u, hu, rfl⟩
    · exact stageFn_step _ hmain t
    · exact stageFn_step _ (hfuncs u hu) t
  have h := atStage_refines M obj stageFn hnd hS T
  have e0 : atStage M stageFn 0 = M := by
    unfold atStage
    simp only [stageFn_zero]
    cases M; simp
  have hlast : ∀ b, b ∈ M.main :: M.funcs.map (·.code) → (fullTrace b).isSome = true →
      stageFn b (T + 1) = Optimizer.optimize b := fun b hb hs =>
    stageFn_last b hs _ (Nat.le_succ_of_le (List.le_max?_getD_of_mem (List.mem_map_of_mem hb)))
  have eT : atStage M stageFn (T + 1) = optMachine M := by
    unfold atStage optMachine
    rw [hlast _ (List.mem_cons_self ..) hmain, List.map_congr_left fun u hu => by
      rw [hlast _ (List.mem_cons_of_mem _ (List.mem_map_of_mem hu)) (hfuncs u hu)]]
  rw [e0, eT] at h
  exact h

end EvalFilter.OptSim
