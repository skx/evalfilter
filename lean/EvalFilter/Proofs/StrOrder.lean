/-
  Go's comparisons on strings are the list notions of the library: `Str.lt` (Go's `<`, bytewise, which on
  valid UTF-8 is code point by code point) is the lexicographic `<` of `List Char`, `Str.hasPrefix` is
  `<+:` and `Str.contains` is `<:+:`.  What is needed of them - a strict total order, the decompositions
  of a string around a prefix or a substring - then comes from the library.
-/
import EvalFilter.Model.Basic

namespace EvalFilter.Str

theorem lt_iff (a b : Str) : lt a b = true ↔ a < b := by
  induction a generalizing b with
  | nil => cases b <;> simp [lt]
  | cons c cs ih =>
    cases b with
    | nil => simp [lt]
    | cons d ds =>
      have hlt : ∀ x y : Char, x.toNat < y.toNat ↔ x < y := fun _ _ => UInt32.lt_iff_toNat_lt.symm
      simp only [lt, hlt, List.cons_lt_cons_iff, ← ih]
      by_cases h1 : c < d
      · simp [h1]
      · by_cases h2 : d < c
        · simp [h1, h2, (Char.ne_of_lt h2).symm]
        · simp [Char.le_antisymm (Char.not_lt.mp h2) (Char.not_lt.mp h1)]

theorem lt_irrefl (a : Str) : lt a a = false :=
  Bool.eq_false_iff.mpr fun h => List.lt_irrefl a ((lt_iff a a).mp h)

theorem lt_asymm (a b : Str) (h : lt a b = true) : lt b a = false :=
  Bool.eq_false_iff.mpr fun h' => List.lt_asymm ((lt_iff a b).mp h) ((lt_iff b a).mp h')

theorem lt_trans (a b c : Str) (h1 : lt a b = true) (h2 : lt b c = true) : lt a c = true :=
  (lt_iff a c).mpr (List.lt_trans ((lt_iff a b).mp h1) ((lt_iff b c).mp h2))

theorem eq_of_not_lt (a b : Str) (h1 : lt a b = false) (h2 : lt b a = false) : a = b :=
  List.le_antisymm (fun h => Bool.eq_false_iff.mp h2 ((lt_iff b a).mpr h))
    (fun h => Bool.eq_false_iff.mp h1 ((lt_iff a b).mpr h))

theorem lt_total (a b : Str) : lt a b = true ∨ lt b a = true ∨ a = b := by
  cases h1 : lt a b
  · cases h2 : lt b a
    · exact .inr (.inr (eq_of_not_lt a b h1 h2))
    · exact .inr (.inl rfl)
  · exact .inl rfl

/-- `fun a b => !(lt b a)` (`Str.le` unfolded), by which the sorts go, is the `≤` of the library -/
theorem not_lt_iff (a b : Str) : (!(lt b a)) = true ↔ a ≤ b := by
  rw [Bool.not_eq_true', ← Bool.not_eq_true, lt_iff]; exact Iff.rfl

theorem not_lt_total (a b : Str) : (!(lt b a) || !(lt a b)) = true := by
  simpa only [Bool.or_eq_true, not_lt_iff] using List.le_total a b

theorem not_lt_trans (a b c : Str) (h1 : (!(lt b a)) = true) (h2 : (!(lt c b)) = true) : (!(lt c a)) = true :=
  (not_lt_iff a c).mpr (List.le_trans ((not_lt_iff a b).mp h1) ((not_lt_iff b c).mp h2))

theorem hasPrefix_iff (s p : Str) : hasPrefix s p = true ↔ p <+: s := by
  induction p generalizing s with
  | nil => simp [hasPrefix]
  | cons c cs ih =>
    cases s with
    | nil => simp [hasPrefix]
    | cons d ds =>
      simp only [hasPrefix, Bool.and_eq_true, beq_iff_eq, ih, List.cons_prefix_cons, eq_comm (a := d)]

theorem trimPrefix_of_not_hasPrefix {s p : Str} (h : ¬ hasPrefix s p) : trimPrefix s p = s :=
  if_neg h

theorem contains_iff (s sub : Str) : contains s sub = true ↔ sub <:+: s := by
  induction s with
  | nil => simp [contains]
  | cons c cs ih => simp only [contains, Bool.or_eq_true, hasPrefix_iff, List.infix_cons_iff, ih]

end EvalFilter.Str
