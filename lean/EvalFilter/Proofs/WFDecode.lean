/-
  Facts about `WF.decode`: every decoded instruction sits in the byte string where the VM's
  fetch/decode will find it (`Fetch`), and the instruction after it is again a decoded instruction (or the
  end); decoding what the emitter wrote gives the instructions back.
-/
import EvalFilter.Model.WF

namespace EvalFilter.OptSim

/-- the instruction `i` stands at `ip` in `c`, operand complete.  It is the one description of "what the loop
    fetches here" for decoded bytes (`decode_spec`), compiled code (`Exec.CodeAt.fetch`) and the optimizer's
    simulation (`BodySim`), so it stands below all three, in the namespace of `BodySim`. -/
structure Fetch (c : Bytes) (ip : Nat) (i : Instr) : Prop where
  fits : ip + i.op.length ≤ c.length
  op : (c.getD ip 0).toNat = i.op.toNat
  arg : i.arg = if i.op.length = 3 then decode16 (c.getD (ip + 1) 0) (c.getD (ip + 2) 0) else 0

end EvalFilter.OptSim

namespace EvalFilter.WF
open EvalFilter.OptSim (Fetch)

theorem Op.ofNat_toNat (op : Op) : Op.ofNat? op.toNat = some op := by cases op <;> rfl

theorem Op.toNat_lt (op : Op) : op.toNat < 256 := by cases op <;> decide

theorem Op.ofNat_some {n : Nat} {op : Op} (h : Op.ofNat? n = some op) : n = op.toNat := by
  unfold Op.ofNat? at h
  split at h <;> first | (cases h; rfl) | cases h

theorem Op.length_cases (op : Op) : op.length = 1 ∨ op.length = 3 := by cases op <;> simp [Op.length]

theorem byteLength_toNat (op : Op) : byteLength op.toNat = op.length := by
  simp [byteLength, Op.ofNat_toNat]

theorem _root_.EvalFilter.Instr.size_pos (i : Instr) : 0 < i.size := by
  rcases Op.length_cases i.op with h | h <;> simp [Instr.size, h]

theorem _root_.EvalFilter.OptSim.Fetch.lt {c : Bytes} {ip : Nat} {i : Instr} (h : Fetch c ip i) : ip < c.length :=
  Nat.lt_of_lt_of_le (Nat.lt_add_of_pos_right i.size_pos) h.fits

theorem decode16_encode16 (n : Nat) :
    decode16 (UInt8.ofNat (n % 65536 / 256)) (UInt8.ofNat (n % 256)) = n % 65536 := by
  simp only [decode16, UInt8.toNat_ofNat']; omega

theorem decode_nil (off : Nat) : decode off [] = some [] := by unfold decode; rfl

/-- one step of `decode`, inverted: the first instruction, the bytes `hd` it was read from, and the rest -/
theorem decode_cons {off : Nat} {b : UInt8} {rest : Bytes} {instrs : List (Nat × Instr)}
    (h : decode off (b :: rest) = some instrs) :
    ∃ i hd tl l, instrs = (off, i) :: l ∧ b :: rest = hd ++ tl ∧ hd.length = i.size ∧
      decode (off + i.size) tl = some l ∧ Fetch hd 0 i := by
  rw [decode] at h
  split at h
  · cases h
  rename_i op hop
  have hb : b.toNat = op.toNat := Op.ofNat_some hop
  split at h
  · rename_i hlen
    have hlen : op.length = 3 := by simpa using hlen
    split at h
    · rename_i hi lo tl
      obtain ⟨l, hl, rfl⟩ := Option.map_eq_some_iff.mp h
      exact ⟨_, [b, hi, lo], tl, l, rfl, rfl, by simp [Instr.size, hlen], by simpa [Instr.size, hlen] using hl,
        by simp [hlen], hb, by simp [hlen]⟩
    · cases h
  · rename_i hlen
    have hlen : op.length = 1 := by rcases Op.length_cases op with h | h <;> simp_all
    obtain ⟨l, hl, rfl⟩ := Option.map_eq_some_iff.mp h
    exact ⟨_, [b], rest, l, rfl, rfl, by simp [Instr.size, hlen], by simpa [Instr.size, hlen] using hl,
      by simp [hlen], hb, by simp [hlen]⟩

theorem _root_.EvalFilter.OptSim.Fetch.embed {hd : Bytes} {k : Nat} {i : Instr} (h : Fetch hd k i) (pre tl : Bytes) :
    Fetch (pre ++ (hd ++ tl)) (pre.length + k) i := by
  have get : ∀ j, j < i.op.length → (pre ++ (hd ++ tl)).getD (pre.length + k + j) 0 = hd.getD (k + j) 0 := by
    intro j hj
    have := h.fits
    simp [List.getD_eq_getElem?_getD, Nat.add_assoc, List.getElem?_append_right,
      List.getElem?_append_left (show k + j < hd.length by omega)]
  refine ⟨by have := h.fits; simp; omega, (congrArg _ (get 0 i.size_pos)).trans h.op, ?_⟩
  rw [h.arg]
  split
  · rw [get 1 (by omega), get 2 (by omega)]
  · rfl

theorem decode_first {off : Nat} {bs : Bytes} {instrs : List (Nat × Instr)} (h : decode off bs = some instrs) :
    bs = [] ∧ instrs = [] ∨ ∃ i l, instrs = (off, i) :: l := by
  cases bs with
  | nil => rw [decode_nil] at h; cases h; exact .inl ⟨rfl, rfl⟩
  | cons b rest => obtain ⟨i, _, _, l, hl, _⟩ := decode_cons h; exact .inr ⟨i, l, hl⟩

theorem decode_at {o : Nat} {i : Instr} {rest : List (Nat × Instr)} :
    ∀ (before : List (Nat × Instr)) (off : Nat) (bs : Bytes), decode off bs = some (before ++ (o, i) :: rest) →
    ∀ (pre post : Bytes), pre.length = off →
      Fetch (pre ++ bs ++ post) o i ∧
      (rest = [] ∧ o + i.size = off + bs.length ∨ ∃ j r, rest = (o + i.size, j) :: r) := by
  intro before off bs h pre post hpre
  cases bs with
  | nil => rw [decode_nil] at h; cases before <;> cases h
  | cons b bs' =>
    obtain ⟨i0, hd, tl, l, hl, hbs, hlen, htl, hf⟩ := decode_cons h
    subst hpre
    rw [hbs]
    cases before with
    | nil =>
      cases hl
      refine ⟨by simpa using hf.embed pre (tl ++ post), ?_⟩
      rcases decode_first htl with ⟨rfl, rfl⟩ | ⟨j, r, rfl⟩
      · exact .inl ⟨rfl, by simp [hlen]⟩
      · exact .inr ⟨j, r, rfl⟩
    | cons p before' =>
      cases hl
      obtain ⟨h1, h2⟩ := decode_at before' _ tl htl (pre ++ hd) post (by simp [hlen])
      refine ⟨by simpa using h1, ?_⟩
      rcases h2 with ⟨rfl, hend⟩ | hnext
      · exact .inl ⟨rfl, by simp at hend ⊢; omega⟩
      · exact .inr hnext

theorem decode_spec {code : Bytes} {instrs : List (Nat × Instr)} (hd : decode 0 code = some instrs)
    {o : Nat} {i : Instr} (hmem : (o, i) ∈ instrs) :
      Fetch code o i ∧ (o + i.size = code.length ∨ ∃ j, (o + i.size, j) ∈ instrs) := by
  obtain ⟨before, rest, rfl⟩ := List.append_of_mem hmem
  obtain ⟨h1, h2⟩ := decode_at before 0 code hd [] [] rfl
  refine ⟨by simpa using h1, ?_⟩
  rcases h2 with ⟨-, h⟩ | ⟨j, r, rfl⟩
  · exact .inl (by simpa using h)
  · exact .inr ⟨j, by simp⟩

/-- what `emit` really stores for an instruction: operands are truncated to 16 bits -/
def stored (i : Instr) : Instr := ⟨i.op, if i.op.length = 3 then i.arg % 65536 else 0⟩

def withOffsets : Nat → List Instr → List (Nat × Instr)
  | _, [] => []
  | off, i :: is => (off, stored i) :: withOffsets (off + i.size) is

theorem decode_encodeAll (is : List Instr) (off : Nat) :
    decode off (encodeAll is) = some (withOffsets off is) := by
  induction is generalizing off with
  | nil => simp [encodeAll, withOffsets, decode_nil]
  | cons i rest ih =>
    have hb : Op.ofNat? (i.op.toNat % 256) = some i.op := by
      rw [Nat.mod_eq_of_lt (Op.toNat_lt i.op), Op.ofNat_toNat]
    rcases Op.length_cases i.op with h | h <;>
      simp [encodeAll, Instr.encode, Op.hasOperand, encode16, decode, hb, h, ih, withOffsets, stored, Instr.size,
        decode16_encode16]

end EvalFilter.WF
