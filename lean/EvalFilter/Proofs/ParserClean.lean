/-
  One walk along the parser, for a fixed token list `all`: no ILLEGAL, type-less or end-of-input token is ever
  stepped over, and the brackets stepped over balance.  A position is `Before all ts x` (the tokens in front of
  the remaining list `ts` are legal and their brackets count to `x`) or `At all ts x` (the head of `ts`, the
  current token, is legal as well and counted in `x`).  Both speak of `s.toks` only, so the record updates of
  `tern`, `func` and `depth` reduce away.  The count is a parameter: the effect of a parse function is
  `At all s.toks x → At all s'.toks (x + d)`, and sub-calls compose by application.
-/
import EvalFilter.Model.Parser

namespace EvalFilter.Parser

/-- a token the parser may step over; `NONE` is the type-less token the lexer produces for a lone `&`, `|` or `~` -/
def legal (t : TokType) : Prop := t ≠ .ILLEGAL ∧ t ≠ .EOF ∧ t ≠ .NONE
/-- `Kt`: the current token (EOF if none is left) is legal; `Ct`: `toks` is what is left of `all`, and every token in front
    of it is legal -/
def Kt (toks : List Token) : Prop := legal (toks.headD Token.eof).ty
def Ct (all toks : List Token) : Prop := ∃ pre, all = pre ++ toks ∧ ∀ t ∈ pre, legal t.ty
def K (s : PState) : Prop := Kt s.toks
def C (all : List Token) (s : PState) : Prop := Ct all s.toks

instance (t : TokType) : Decidable (legal t) := inferInstanceAs (Decidable (_ ∧ _ ∧ _))

def w : TokType → Int
  | .LPAREN | .LSQUARE | .LBRACE => 1
  | .RPAREN | .RSQUARE | .RBRACE => -1
  | _ => 0

def net : List Token → Int
  | [] => 0
  | t :: ts => w t.ty + net ts

/-- the bracket count of the tokens of `all` in front of what is left, `toks` -/
def M (all toks : List Token) : Int := net (all.take (all.length - toks.length))

/-- `Ms`: net count strictly before the current token; `Ns`: up to and including it -/
def Ms (all : List Token) (s : PState) : Int := M all s.toks
def Ns (all : List Token) (s : PState) : Int := M all s.toks + w (s.toks.headD Token.eof).ty

/-- what the token that selects a parselet weighs -/
def pw : PrefixFn → Int
  | .grouped | .arrayLit | .hashLit => 1
  | _ => 0
def iw : InfixFn → Int
  | .call | .index => 1
  | _ => 0

theorem Ct_tail {all toks : List Token} (hc : Ct all toks) (hk : Kt toks) : Ct all toks.tail := by
  obtain ⟨pre, h1, h2⟩ := hc
  cases toks with
  | nil => exact ⟨pre, by simpa using h1, h2⟩
  | cons t rest =>
    refine ⟨pre ++ [t], by simp [h1], ?_⟩
    intro u hu
    rcases List.mem_append.mp hu with h | h
    · exact h2 u h
    · simp at h; subst h
      simpa [Kt] using hk

theorem net_append (a b : List Token) : net (a ++ b) = net a + net b := by
  induction a with
  | nil => simp [net]
  | cons t ts ih => simp [net, ih]; omega

theorem M_of_split {all pre toks : List Token} (h : all = pre ++ toks) : M all toks = net pre := by
  subst h; simp [M]

theorem M_tail {all toks : List Token} (hc : Ct all toks) :
    M all toks.tail = M all toks + w (toks.headD Token.eof).ty := by
  obtain ⟨pre, h1, _⟩ := hc
  cases toks with
  | nil => simp [M_of_split h1, Token.eof, w]
  | cons t rest =>
    have h2 : all = (pre ++ [t]) ++ rest := by simp [h1]
    simp only [List.tail_cons, List.headD_cons]
    rw [M_of_split h1, M_of_split h2, net_append]
    simp [net]

theorem M_self (all : List Token) : M all all = 0 := by simp [M, net]

theorem curIs_iff {s : PState} {t : TokType} : s.curIs t = true ↔ (s.toks.headD Token.eof).ty = t := by
  simp [PState.curIs, PState.cur]

theorem expectPeek_some {s s' : PState} {t : TokType} (h : s.expectPeek t = some s') :
    s.peekIs t = true ∧ s' = s.next := by
  unfold PState.expectPeek at h
  split at h
  · exact ⟨‹_›, (Option.some.inj h).symm⟩
  · cases h

/-- opens one `if` of a hypothesis; `split at h` would simplify the whole of `h` again at every level
    of a chain of `if`s -/
theorem of_ite {α : Type} {c : Prop} [Decidable c] {a b r : α} (h : (if c then a else b) = r) :
    c ∧ a = r ∨ ¬c ∧ b = r := by
  split at h <;> simp [*]

structure Before (all ts : List Token) (x : Int) : Prop where
  c : Ct all ts
  m : M all ts = x

structure At (all ts : List Token) (x : Int) : Prop where
  c : Ct all ts
  k : Kt ts
  n : M all ts + w (ts.headD Token.eof).ty = x

section
variable {all ts : List Token} {x y : Int} {s s' : PState} {t : TokType} {n : Nat}

/-- by default the weights of the tokens and parselets named in `x` and `y` are evaluated -/
theorem At.cast (a : At all ts x) (h : x = y := by simp only [w, pw, iw] <;> omega) : At all ts y := h ▸ a

theorem Before.at (h : (ts.headD Token.eof).ty = t) (b : Before all ts x) (ht : legal t := by decide) :
    At all ts (x + w t) := by
  subst h; exact ⟨b.c, ht, by rw [b.m]⟩

theorem Before.cur (h : s.curIs t = true) (b : Before all s.toks x) (ht : legal t := by decide) :
    At all s.toks (x + w t) :=
  b.at (curIs_iff.mp h) ht

theorem At.next (a : At all s.toks x) : Before all s.next.toks x := ⟨Ct_tail a.c a.k, by rw [← a.n]; exact M_tail a.c⟩

theorem At.peek (h : s.peekIs t = true) (a : At all s.toks x) (ht : legal t := by decide) :
    At all s.next.toks (x + w t) :=
  a.next.cur h ht

theorem At.expectPeek (h : s.expectPeek t = some s') (a : At all s.toks x) (ht : legal t := by decide) :
    At all s'.toks (x + w t) := by
  obtain ⟨hp, rfl⟩ := expectPeek_some h
  exact a.peek hp ht

theorem At.skip (a : At all s.toks x) : At all (skipSemis s n).toks x := by
  induction n generalizing s with
  | zero => exact a
  | succ n ih =>
    simp only [skipSemis]
    split
    · exact ih (a.peek ‹_› |>.cast)
    · exact a

theorem Before.paramsLoop {acc ps : List Str} (h : parseParams.loop n s acc = some (ps, s'))
    (b : Before all s.toks x) : At all s'.toks (x - 1) := by
  induction n generalizing s acc with
  | zero => simp [parseParams.loop] at h
  | succ n ih =>
    simp only [parseParams.loop] at h
    obtain ⟨hr, h⟩ | ⟨-, h⟩ := of_ite h
    · cases h; exact b.cur hr |>.cast
    obtain ⟨-, h⟩ | ⟨hi, h⟩ := of_ite h
    · cases h
    have a := b.cur (t := .IDENT) (by simpa using hi) |>.cast (y := x)
    obtain ⟨hc, h⟩ | ⟨-, h⟩ := of_ite h
    · obtain ⟨-, h⟩ | ⟨-, h⟩ := of_ite h
      · cases h
      · exact ih h (a.peek hc |>.cast (y := x)).next
    · obtain ⟨-, h⟩ | ⟨-, h⟩ := of_ite h
      · cases h
      · exact ih h a.next

theorem At.params {ps : List Str} (h : parseParams s = some (ps, s')) (a : At all s.toks x) :
    At all s'.toks (x - 1) := by
  simp only [parseParams] at h
  split at h
  · cases h; exact a.peek ‹_› |>.cast
  · exact a.next.paramsLoop h

theorem parsePrefix_illegal (n : Nat) (s : PState) : parsePrefix n .illegal s = none := by cases n <;> rfl

theorem parsePrefix_eof (n : Nat) (s : PState) : parsePrefix n .eof s = none := by cases n <;> rfl

/-- `_lw`: a token that selects a parselet (a postfix token) is legal and weighs what `pw` (`iw`, 0) says.
    ILLEGAL and EOF do select a prefix parselet, but one that fails. -/
theorem prefixFn_lw {fn : PrefixFn} {r : Expr × PState} (h : prefixFn t = some fn)
    (hp : parsePrefix n fn s = some r) : legal t ∧ w t = pw fn := by
  cases t <;> cases h <;> first | exact ⟨by decide, rfl⟩ | simp [parsePrefix_illegal, parsePrefix_eof] at hp

theorem infixFn_lw {fn : InfixFn} (h : infixFn t = some fn) : legal t ∧ w t = iw fn := by
  cases t <;> cases h <;> exact ⟨by decide, rfl⟩

theorem isPostfix_lw (h : isPostfix t = true) : legal t ∧ w t = 0 := by
  cases t <;> cases h <;> exact ⟨by decide, rfl⟩

end

/-- Where each parse function, given fuel `n`, leaves the parser: on the last token of what it parsed.
    A function entered on the first token of its construct, which nobody has looked at yet, takes `Before` and
    shows that token legal (`expr`, `stmt`, the loops `blockLoop`, `cases`); one entered on a token its caller has
    checked takes `At`.  What a construct steps over balances, so the count comes back: a parselet is entered with
    its opening bracket counted and stops on the closing one (`x - pw fn`, `x - iw fn`), a block is entered on `{`
    and left on `}` (`x - 1`), a list stops on its closing token `t` (`x + w t`). -/
structure Walk (all : List Token) (n : Nat) : Prop where
  expr : ∀ {prec s e s' x}, parseExpression n prec s = some (e, s') → Before all s.toks x → Kt s.toks ∧ At all s'.toks x
  loop : ∀ {prec l s e s' x}, infixLoop n prec l s = some (e, s') → At all s.toks x → At all s'.toks x
  pre : ∀ {fn s e s' x}, parsePrefix n fn s = some (e, s') → At all s.toks x → At all s'.toks (x - pw fn)
  inf : ∀ {fn l s e s' x}, parseInfix n fn l s = some (e, s') → At all s.toks x → At all s'.toks (x - iw fn)
  bracket : ∀ {s e s' x}, parseBracket n s = some (e, s') → At all s.toks x → At all s'.toks x
  ifE : ∀ {s e s' x}, parseIf n s = some (e, s') → At all s.toks x → At all s'.toks x
  stmt : ∀ {s st s' x}, parseStatement n s = some (st, s') → Before all s.toks x → Kt s.toks ∧ At all s'.toks x
  block : ∀ {s b s' x}, parseBlock n s = some (b, s') → At all s.toks x → At all s'.toks (x - 1)
  blockLoop : ∀ {s acc b s' x}, parseBlockLoop n s acc = some (b, s') → Before all s.toks x → At all s'.toks (x - 1)
  list : ∀ {t s es s' x}, legal t → parseExprList n t s = some (es, s') → At all s.toks x → At all s'.toks (x + w t)
  listLoop : ∀ {t s acc es s' x}, legal t → parseExprListLoop n t s acc = some (es, s') → At all s.toks x → At all s'.toks (x + w t)
  hash : ∀ {s acc ps s' x}, parseHashPairs n s acc = some (ps, s') → At all s.toks x → At all s'.toks x ∧ s'.peekIs .RBRACE = true
  cases : ∀ {s acc cs s' x}, parseCases n s acc = some (cs, s') → Before all s.toks x → At all s'.toks (x - 1)
  caseExprs : ∀ {s acc es s' x}, parseCaseExprs n s acc = some (es, s') → At all s.toks x → At all s'.toks x

/- Each field opens the sub-calls of one function in turn (`split at h`: the call fails, or returns what
   `rename_i` names) and follows `Before` / `At` along them. -/
theorem Walk.succ {all : List Token} {n : Nat} (j : Walk all n) : Walk all (n + 1) where
  expr {prec s e s' x} h b := by
    simp only [parseExpression] at h
    split at h; cases h
    split at h
    · rename_i hp
      cases h
      have ⟨hl, hw⟩ := isPostfix_lw (t := s.cur.ty) hp
      have a := b.at (t := s.cur.ty) rfl hl
      exact ⟨a.k, a.cast (by omega)⟩
    · split at h; cases h
      rename_i fn hfn
      split at h; cases h
      rename_i l s1 h1
      split at h; cases h
      rename_i e1 s2 h2
      cases h
      have ⟨hl, hw⟩ := prefixFn_lw (t := s.cur.ty) hfn h1
      have a := b.at (t := s.cur.ty) rfl hl
      exact ⟨a.k, a |> j.pre h1 |> j.loop h2 |>.cast (by omega)⟩
  loop {prec l s e s' x} h a := by
    simp only [infixLoop] at h
    split at h
    · split at h; cases h
      rename_i fn hfn
      split at h; cases h
      rename_i l1 s1 h1
      have ⟨hl, hw⟩ := infixFn_lw (t := s.peek.ty) hfn
      exact a.next.at (t := s.peek.ty) rfl hl |> j.inf h1 |>.cast (by omega) |> j.loop h
    · cases h; exact a
  pre {fn s e s' x} h a := by
    simp only [parsePrefix] at h
    split at h
    · cases h
    · cases h
    · cases h; exact a.cast
    · cases h; exact a.cast
    · cases h; exact a.cast
    · obtain ⟨_, _, h⟩ := Option.map_eq_some_iff.mp h
      cases h; exact a.cast
    · obtain ⟨_, _, h⟩ := Option.map_eq_some_iff.mp h
      cases h; exact a.cast
    · cases h; exact a.cast
    · -- prefixOp
      split at h; cases h
      rename_i r s1 h1
      cases h
      exact a.next |> j.expr h1 |>.2 |>.cast
    · -- grouped
      split at h; cases h
      rename_i e1 s1 h1
      obtain ⟨s2, h2, h⟩ := Option.map_eq_some_iff.mp h
      cases h
      exact a.next |> j.expr h1 |>.2 |>.expectPeek h2 |>.cast
    · -- arrayLit
      split at h; cases h
      rename_i els s1 h1
      cases h
      exact j.list (by decide) h1 a |>.cast
    · -- hashLit
      split at h; cases h
      rename_i ps s1 h1
      cases h
      have ⟨a1, hp⟩ := j.hash h1 a
      exact a1.peek hp |>.cast
    · -- localV
      split at h; cases h
      split at h; cases h
      rename_i hi
      cases h
      exact a.next.cur (t := .IDENT) (by simpa using hi) |>.cast
    · exact j.ifE h a |>.cast
    · -- whileS
      split at h; cases h
      rename_i s1 h1
      split at h; cases h
      rename_i c s2 h2
      split at h; cases h
      rename_i s3 h3
      split at h; cases h
      rename_i s4 h4
      split at h; cases h
      rename_i b s5 h5
      cases h
      exact (a.expectPeek h1).next |> j.expr h2 |>.2 |>.expectPeek h3 |>.expectPeek h4 |> j.block h5 |>.cast
    · -- foreachS
      split at h; cases h
      rename_i s1 h1
      split at h; cases h
      rename_i idx ident s2 h2
      split at h; cases h
      rename_i s3 h3
      split at h; cases h
      rename_i v s4 h4
      split at h; cases h
      rename_i s5 h5
      split at h; cases h
      rename_i b s6 h6
      cases h
      have a2 : At all s2.toks x := by
        split at h2
        · split at h2; cases h2
          rename_i hc hi
          cases h2
          exact a.expectPeek h1 |>.peek hc |>.peek (t := .IDENT) (by simpa using hi) |>.cast
        · cases h2; exact a.expectPeek h1 |>.cast
      exact (a2.expectPeek h3).next |> j.expr h4 |>.2 |>.expectPeek h5 |> j.block h6 |>.cast
    · -- funcDef
      split at h; cases h
      rename_i s1 h1
      split at h; cases h
      rename_i s2 h2
      split at h; cases h
      rename_i ps s3 h3
      split at h; cases h
      rename_i s4 h4
      split at h; cases h
      rename_i b s5 h5
      cases h
      exact a.expectPeek h1 |>.expectPeek h2 |>.params h3 |>.expectPeek h4 |> j.block h5 |>.cast
    · -- switchS
      split at h; cases h
      rename_i v s1 h1
      split at h; cases h
      rename_i s2 h2
      split at h; cases h
      rename_i cs s3 h3
      split at h; cases h
      cases h
      exact (j.bracket h1 a |>.expectPeek h2).next |> j.cases h3 |>.cast
  inf h a := by
    simp only [parseInfix] at h
    split at h
    · -- binary
      split at h; cases h
      rename_i r s1 h1
      cases h
      exact a.next |> j.expr h1 |>.2 |>.cast
    · -- assign
      split at h
      · split at h; cases h
        rename_i v s1 h1
        cases h
        exact a.next |> j.expr h1 |>.2 |>.cast
      · cases h
    · -- call
      split at h; cases h
      rename_i args s1 h1
      cases h
      exact j.list (by decide) h1 a |>.cast
    · -- index
      split at h; cases h
      rename_i i s1 h1
      obtain ⟨s2, h2, h⟩ := Option.map_eq_some_iff.mp h
      cases h
      exact a.next |> j.expr h1 |>.2 |>.expectPeek h2 |>.cast
    · -- ternary
      split at h; cases h
      split at h; cases h
      rename_i t s1 h1
      split at h; cases h
      rename_i s2 h2
      split at h; cases h
      rename_i f s3 h3
      cases h
      exact (a.next |> j.expr h1 |>.2 |>.expectPeek h2).next |> j.expr h3 |>.2 |>.cast
  bracket h a := by
    simp only [parseBracket] at h
    split at h; cases h
    rename_i s1 h1
    split at h; cases h
    rename_i e1 s2 h2
    obtain ⟨s3, h3, h⟩ := Option.map_eq_some_iff.mp h
    cases h
    exact (a.expectPeek h1).next |> j.expr h2 |>.2 |>.expectPeek h3 |>.cast
  ifE {s e s' x} h a := by
    simp only [parseIf] at h
    split at h; cases h
    rename_i c s1 h1
    split at h; cases h
    rename_i s2 h2
    split at h; cases h
    rename_i cons s3 h3
    have a3 : At all s3.toks x := j.bracket h1 a |>.expectPeek h2 |> j.block h3 |>.cast
    split at h
    · rename_i hel
      split at h
      · rename_i hif
        split at h; cases h
        rename_i e1 s4 h4
        cases h
        exact a3.peek hel |>.peek hif |> j.ifE h4 |>.cast
      · split at h; cases h
        rename_i s4 h4
        split at h; cases h
        rename_i alt s5 h5
        cases h
        exact a3.peek hel |>.expectPeek h4 |> j.block h5 |>.cast
    · cases h; exact a3
  stmt h b := by
    simp only [parseStatement] at h
    split at h
    · rename_i hr
      split at h; cases h
      rename_i e1 s1 h1
      split at h
      · rename_i hs
        cases h
        have a := b.cur hr
        exact ⟨a.k, a.next |> j.expr h1 |>.2 |>.peek hs |>.cast⟩
      · cases h
    · split at h; cases h
      rename_i e1 s1 h1
      cases h
      have ⟨k, a⟩ := j.expr h1 b
      exact ⟨k, a.skip⟩
  block h a := by
    simp only [parseBlock] at h
    exact j.blockLoop h a.next
  blockLoop h b' := by
    simp only [parseBlockLoop] at h
    split at h
    · cases h; exact b'.cur ‹_› |>.cast
    · split at h; cases h
      rename_i st s1 h1
      split at h; cases h
      exact j.stmt h1 b' |>.2 |>.next |> j.blockLoop h
  list ht h a := by
    simp only [parseExprList] at h
    split at h
    · cases h; exact a.peek ‹_› ht
    · split at h; cases h
      rename_i e1 s1 h1
      exact a.next |> j.expr h1 |>.2 |> j.listLoop ht h
  listLoop ht h a := by
    simp only [parseExprListLoop] at h
    split at h
    · rename_i hc
      split at h; cases h
      rename_i e1 s1 h1
      exact (a.peek hc).next |> j.expr h1 |>.2 |> j.listLoop ht h |>.cast
    · obtain ⟨s1, h1, h⟩ := Option.map_eq_some_iff.mp h
      cases h
      exact a.expectPeek h1 ht
  hash {s acc ps s' x} h a := by
    simp only [parseHashPairs] at h
    split at h
    · cases h; exact ⟨a, ‹_›⟩
    · split at h; cases h
      rename_i k s1 h1
      split at h; cases h
      rename_i s2 h2
      split at h; cases h
      rename_i v s3 h3
      have a3 : At all s3.toks x := (a.next |> j.expr h1 |>.2 |>.expectPeek h2).next |> j.expr h3 |>.2 |>.cast
      split at h
      · exact j.hash h a3
      · split at h; cases h
        rename_i s4 h4
        exact j.hash h (a3.expectPeek h4 |>.cast)
  cases {s acc cs s' x} h b := by
    simp only [parseCases] at h
    obtain ⟨hr, h⟩ | ⟨-, h⟩ := of_ite h
    · cases h; exact b.cur hr |>.cast
    obtain ⟨-, h⟩ | ⟨-, h⟩ := of_ite h
    · cases h
    split at h; cases h
    rename_i isDef es s1 h1
    split at h; cases h
    rename_i s2 h2
    split at h; cases h
    rename_i bl s3 h3
    have a1 : At all s1.toks x := by
      obtain ⟨hd, h1⟩ | ⟨-, h1⟩ := of_ite h1
      · cases h1; exact b.cur hd |>.cast
      obtain ⟨hc, h1⟩ | ⟨-, h1⟩ := of_ite h1
      · obtain ⟨hd, h1⟩ | ⟨-, h1⟩ := of_ite h1
        · cases h1; exact b.cur hc |>.peek hd |>.cast
        · split at h1; cases h1
          rename_i e1 s4 h4
          split at h1; cases h1
          rename_i es1 s5 h5
          cases h1
          exact (b.cur hc).next |> j.expr h4 |>.2 |> j.caseExprs h5 |>.cast
      · cases h1
    exact a1.expectPeek h2 |> j.block h3 |>.next |> j.cases h |>.cast
  caseExprs h a := by
    simp only [parseCaseExprs] at h
    split at h
    · rename_i hc
      split at h; cases h
      rename_i e1 s1 h1
      exact (a.peek hc).next |> j.expr h1 |>.2 |> j.caseExprs h |>.cast
    · cases h; exact a

theorem walk_all (all : List Token) : ∀ n, Walk all n
  | 0 => ⟨nofun, nofun, nofun, nofun, nofun, nofun, nofun, nofun, nofun, nofun, nofun, nofun, nofun, nofun⟩
  | n + 1 => (walk_all all n).succ

/-- `IH` (no illegal token is stepped over: `C`, `K`), `IHB` (brackets balance: `Ms`, `Ns`) and the `clean_*`
    below are `Walk` read off field by field, statements of record: build on `Walk`. -/
structure IH (all : List Token) (n : Nat) : Prop where
  expr : ∀ prec s e s', parseExpression n prec s = some (e, s') → C all s → K s ∧ C all s' ∧ K s'
  loop : ∀ prec l s e s', infixLoop n prec l s = some (e, s') → C all s → K s → C all s' ∧ K s'
  pre : ∀ fn s e s', parsePrefix n fn s = some (e, s') → C all s → K s → C all s' ∧ K s'
  inf : ∀ fn l s e s', parseInfix n fn l s = some (e, s') → C all s → K s → C all s' ∧ K s'
  bracket : ∀ s e s', parseBracket n s = some (e, s') → C all s → K s → C all s' ∧ K s'
  ifE : ∀ s e s', parseIf n s = some (e, s') → C all s → K s → C all s' ∧ K s'
  stmt : ∀ s st s', parseStatement n s = some (st, s') → C all s → K s ∧ C all s' ∧ K s'
  block : ∀ s b s', parseBlock n s = some (b, s') → C all s → K s → C all s' ∧ K s'
  blockLoop : ∀ s acc b s', parseBlockLoop n s acc = some (b, s') → C all s → C all s' ∧ K s'
  list : ∀ t s es s', legal t → parseExprList n t s = some (es, s') → C all s → K s → C all s' ∧ K s'
  listLoop : ∀ t s acc es s', legal t → parseExprListLoop n t s acc = some (es, s') → C all s → K s → C all s' ∧ K s'
  hash : ∀ s acc ps s', parseHashPairs n s acc = some (ps, s') → C all s → K s → C all s' ∧ K s' ∧ s'.peekIs .RBRACE = true
  cases : ∀ s acc cs s', parseCases n s acc = some (cs, s') → C all s → C all s' ∧ K s'
  caseExprs : ∀ s acc es s', parseCaseExprs n s acc = some (es, s') → C all s → K s → C all s' ∧ K s'

theorem At.ck {all : List Token} {s : PState} {x : Int} (a : At all s.toks x) : C all s ∧ K s := ⟨a.c, a.k⟩

theorem IH_all (all : List Token) (n : Nat) : IH all n :=
  have j := walk_all all n
  { expr := fun _ _ _ _ h c => have ⟨k, a⟩ := j.expr h ⟨c, rfl⟩; ⟨k, a.ck⟩
    loop := fun _ _ _ _ _ h c k => (j.loop h ⟨c, k, rfl⟩).ck
    pre := fun _ _ _ _ h c k => (j.pre h ⟨c, k, rfl⟩).ck
    inf := fun _ _ _ _ _ h c k => (j.inf h ⟨c, k, rfl⟩).ck
    bracket := fun _ _ _ h c k => (j.bracket h ⟨c, k, rfl⟩).ck
    ifE := fun _ _ _ h c k => (j.ifE h ⟨c, k, rfl⟩).ck
    stmt := fun _ _ _ h c => have ⟨k, a⟩ := j.stmt h ⟨c, rfl⟩; ⟨k, a.ck⟩
    block := fun _ _ _ h c k => (j.block h ⟨c, k, rfl⟩).ck
    blockLoop := fun _ _ _ _ h c => (j.blockLoop h ⟨c, rfl⟩).ck
    list := fun _ _ _ _ ht h c k => (j.list ht h ⟨c, k, rfl⟩).ck
    listLoop := fun _ _ _ _ _ ht h c k => (j.listLoop ht h ⟨c, k, rfl⟩).ck
    hash := fun _ _ _ _ h c k => have ⟨a, hp⟩ := j.hash h ⟨c, k, rfl⟩; ⟨a.c, a.k, hp⟩
    cases := fun _ _ _ _ h c => (j.cases h ⟨c, rfl⟩).ck
    caseExprs := fun _ _ _ _ h c k => (j.caseExprs h ⟨c, k, rfl⟩).ck }

theorem clean_loop (all : List Token) (n : Nat) : ∀ prec l s e s', infixLoop n prec l s = some (e, s') → C all s → K s → C all s' ∧ K s' := (IH_all all n).loop
theorem clean_ifE (all : List Token) (n : Nat) : ∀ s e s', parseIf n s = some (e, s') → C all s → K s → C all s' ∧ K s' := (IH_all all n).ifE
theorem clean_blockLoop (all : List Token) (n : Nat) : ∀ s acc b s', parseBlockLoop n s acc = some (b, s') → C all s → C all s' ∧ K s' := (IH_all all n).blockLoop
theorem clean_list (all : List Token) (n : Nat) : ∀ t s es s', legal t → parseExprList n t s = some (es, s') → C all s → K s → C all s' ∧ K s' := (IH_all all n).list
theorem clean_listLoop (all : List Token) (n : Nat) : ∀ t s acc es s', legal t → parseExprListLoop n t s acc = some (es, s') → C all s → K s → C all s' ∧ K s' := (IH_all all n).listLoop
theorem clean_cases (all : List Token) (n : Nat) : ∀ s acc cs s', parseCases n s acc = some (cs, s') → C all s → C all s' ∧ K s' := (IH_all all n).cases

structure IHB (all : List Token) (n : Nat) : Prop where
  expr : ∀ prec s e s', parseExpression n prec s = some (e, s') → C all s → Ns all s' = Ms all s
  loop : ∀ prec l s e s', infixLoop n prec l s = some (e, s') → C all s → K s → Ns all s' = Ns all s
  pre : ∀ fn s e s', parsePrefix n fn s = some (e, s') → C all s → K s → Ns all s' = Ns all s - pw fn
  inf : ∀ fn l s e s', parseInfix n fn l s = some (e, s') → C all s → K s → Ns all s' = Ns all s - iw fn
  bracket : ∀ s e s', parseBracket n s = some (e, s') → C all s → K s → Ns all s' = Ns all s
  ifE : ∀ s e s', parseIf n s = some (e, s') → C all s → K s → Ns all s' = Ns all s
  stmt : ∀ s st s', parseStatement n s = some (st, s') → C all s → Ns all s' = Ms all s
  block : ∀ s b s', parseBlock n s = some (b, s') → C all s → K s → Ns all s' = Ns all s - 1
  blockLoop : ∀ s acc b s', parseBlockLoop n s acc = some (b, s') → C all s → Ns all s' = Ms all s - 1
  list : ∀ t s es s', w t = -1 → legal t → parseExprList n t s = some (es, s') → C all s → K s → Ns all s' = Ns all s - 1
  listLoop : ∀ t s acc es s', w t = -1 → legal t → parseExprListLoop n t s acc = some (es, s') → C all s → K s → Ns all s' = Ns all s - 1
  hash : ∀ s acc ps s', parseHashPairs n s acc = some (ps, s') → C all s → K s → Ns all s' = Ns all s
  cases : ∀ s acc cs s', parseCases n s acc = some (cs, s') → C all s → Ns all s' = Ms all s - 1
  caseExprs : ∀ s acc es s', parseCaseExprs n s acc = some (es, s') → C all s → K s → Ns all s' = Ns all s

theorem IHB_all (all : List Token) (n : Nat) : IHB all n :=
  have j := walk_all all n
  { expr := fun _ _ _ _ h c => (j.expr h ⟨c, rfl⟩).2.n
    loop := fun _ _ _ _ _ h c k => (j.loop h ⟨c, k, rfl⟩).n
    pre := fun _ _ _ _ h c k => (j.pre h ⟨c, k, rfl⟩).n
    inf := fun _ _ _ _ _ h c k => (j.inf h ⟨c, k, rfl⟩).n
    bracket := fun _ _ _ h c k => (j.bracket h ⟨c, k, rfl⟩).n
    ifE := fun _ _ _ h c k => (j.ifE h ⟨c, k, rfl⟩).n
    stmt := fun _ _ _ h c => (j.stmt h ⟨c, rfl⟩).2.n
    block := fun _ _ _ h c k => (j.block h ⟨c, k, rfl⟩).n
    blockLoop := fun _ _ _ _ h c => (j.blockLoop h ⟨c, rfl⟩).n
    list := fun _ _ _ _ hw ht h c k => (j.list ht h ⟨c, k, rfl⟩ |>.cast (by unfold Ns; omega)).n
    listLoop := fun _ _ _ _ _ hw ht h c k => (j.listLoop ht h ⟨c, k, rfl⟩ |>.cast (by unfold Ns; omega)).n
    hash := fun _ _ _ _ h c k => (j.hash h ⟨c, k, rfl⟩).1.n
    cases := fun _ _ _ _ h c => (j.cases h ⟨c, rfl⟩).n
    caseExprs := fun _ _ _ _ h c k => (j.caseExprs h ⟨c, k, rfl⟩).n }

theorem parseProgramLoop_walk {all : List Token} {fuel efuel : Nat} {s : PState} {acc p : List Stmt} {x : Int}
    (h : parseProgramLoop fuel efuel s acc = some p) (b : Before all s.toks x) :
    ∃ s' : PState, Before all s'.toks x ∧ s'.curIs .EOF = true := by
  induction fuel generalizing s acc with
  | zero => simp [parseProgramLoop] at h
  | succ n ih =>
    simp only [parseProgramLoop] at h
    split at h
    · exact ⟨s, b, ‹_›⟩
    · split at h; cases h
      split at h; cases h
      rename_i st s1 h1
      exact ih h ((walk_all all efuel).stmt h1 b).2.next

/-- the parser accepts only on the end-of-input token, having stepped over every token in front of it -/
theorem parse_walk {toks : List Token} {p : Program} (h : parse toks = some p) :
    (∀ t ∈ toks.takeWhile (fun t => t.ty != .EOF), legal t.ty) ∧ net (toks.takeWhile (fun t => t.ty != .EOF)) = 0 := by
  unfold parse at h
  obtain ⟨s', ⟨⟨pre, hpre, hleg⟩, hm⟩, heof⟩ := parseProgramLoop_walk (all := toks) h ⟨⟨[], rfl, nofun⟩, M_self toks⟩
  have hstop : s'.toks.takeWhile (fun t => t.ty != .EOF) = [] := by
    cases hs : s'.toks with
    | nil => rfl
    | cons a rest => simp [show a.ty = .EOF by simpa [hs] using curIs_iff.mp heof]
  have htw : toks.takeWhile (fun t => t.ty != .EOF) = pre := by
    conv => lhs; rw [hpre]
    rw [List.takeWhile_append_of_pos (fun t ht => by simpa using (hleg t ht).2.1), hstop, List.append_nil]
  rw [htw]
  exact ⟨hleg, by rw [← M_of_split hpre, hm]⟩

end EvalFilter.Parser
