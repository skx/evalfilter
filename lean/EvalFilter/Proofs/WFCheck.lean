/-
  The executable verifier implies the declarative conditions: the static ones (`StaticOk`) and those on
  the stack-depth certificate (`StackOk`).
-/
import EvalFilter.Proofs.WFSound

namespace EvalFilter.WF
open EvalFilter.VM

theorem instrStatic_none {cs : List Bool} {starts : List Nat} {len : Nat} {isFn : Bool} {o : Nat} {i : Instr}
    (h : instrStatic cs starts len isFn o i = none) :
    ((i.op = .jump ∨ i.op = .jumpIfFalse) → starts.contains i.arg = true) ∧
    ((i.op = .constant ∨ i.op = .lookup ∨ i.op = .inc ∨ i.op = .dec) → i.arg < cs.length) := by
  unfold instrStatic at h
  split at h
  · cases h
  · rename_i hn
    refine ⟨fun hj => by rcases hj with hj | hj <;> simp [hj] at hn <;> simpa using hn, fun hc => ?_⟩
    split at h
    · cases h
    · rename_i hn
      rcases hc with hc | hc | hc | hc <;> simp [hc] at hn <;> omega

def lastIter (pre : List (Nat × Instr)) : Bool :=
  match pre.getLast? with
  | some (_, j) => j.op == .iterationNext
  | none => false

theorem lastIter_snoc (pre : List (Nat × Instr)) (o : Nat) (i : Instr) :
    lastIter (pre ++ [(o, i)]) = (i.op == .iterationNext) := by
  simp [lastIter]

structure StackOk (code : Bytes) (instrs : List (Nat × Instr)) (cert : Cert) : Prop where
  start : instrs ≠ [] → cert.get 0 = some 0
  at_ : ∀ pre o i rest, instrs = pre ++ (o, i) :: rest →
    instrCert cert code.length (lastIter pre) o i = none ∧ (lastIter pre = true → i.op = .jumpIfFalse)

/-- `checkInstrs` carries the flag "the previous instruction is an OpIterationNext" as an argument; at a
    position of the list it is `prev` for the first instruction and `lastIter` of what stands before otherwise. -/
theorem checkInstrs_at {cs : List Bool} {starts : List Nat} {len : Nat} {isFn : Bool} {cert : Cert} :
    ∀ (instrs : List (Nat × Instr)) (prev : Bool), checkInstrs cs starts len isFn cert instrs prev = none →
      ∀ pre o i rest, instrs = pre ++ (o, i) :: rest →
        instrStatic cs starts len isFn o i = none ∧
        instrCert cert len (if pre = [] then prev else lastIter pre) o i = none ∧
        (i.op = .iterationNext → followedByCondJump rest = true)
  | [], _, _, pre, o, i, rest, hs => by
    cases pre <;> simp at hs
  | (off, j) :: tl, prev, h, pre, o, i, rest, hs => by
    simp only [checkInstrs] at h
    split at h
    · cases h
    rename_i hstatic
    split at h
    · cases h
    rename_i hcert
    split at h
    · cases h
    rename_i hshape
    cases pre with
    | nil =>
      obtain ⟨⟨rfl, rfl⟩, rfl⟩ : (off = o ∧ j = i) ∧ tl = rest := by simpa using hs
      exact ⟨hstatic, hcert, fun hit => by simpa [hit] using hshape⟩
    | cons p pre' =>
      obtain ⟨rfl, hs'⟩ : (off, j) = p ∧ tl = pre' ++ (o, i) :: rest := by simpa using hs
      have := checkInstrs_at tl _ h pre' o i rest hs'
      refine ⟨this.1, ?_, this.2.2⟩
      cases pre' with
      | nil => simpa [lastIter] using this.2.1
      | cons q pre'' => simpa [lastIter, List.getLast?_cons_cons] using this.2.1

theorem checkBody_ok (cs : List Bool) (b : Body) (h : checkBody cs b = none) :
    ∃ instrs cert, StaticOk cs.length b.code instrs ∧ StackOk b.code instrs cert := by
  unfold checkBody at h
  split at h
  · cases h
  rename_i instrs hd
  simp only at h
  refine ⟨instrs, infer instrs false (some 0) [] [], ?_⟩
  split at h
  · -- the empty body: nothing to check
    rename_i hempty
    have hd' := hd
    rw [List.isEmpty_iff.mp hempty, decode_nil] at hd'
    cases hd'
    exact ⟨⟨hd, nofun, nofun⟩, fun h => absurd rfl h, fun pre o i rest hs => by cases pre <;> simp at hs⟩
  split at h
  · cases h
  rename_i hc0
  have hat := checkInstrs_at instrs false h
  constructor
  · refine ⟨hd, fun o i hm hj => ?_, fun o i hm hc => ?_⟩ <;>
      obtain ⟨pre, rest, rfl⟩ := List.append_of_mem hm
    · have : i.arg ∈ (pre ++ (o, i) :: rest).map (·.1) := by
        simpa using (instrStatic_none (hat pre o i rest rfl).1).1 hj
      obtain ⟨⟨a, j⟩, hj, rfl⟩ := List.mem_map.mp this
      exact ⟨j, hj⟩
    · exact (instrStatic_none (hat pre o i rest rfl).1).2 hc
  · refine ⟨fun _ => by simpa using hc0, fun pre o i rest hs => ?_⟩
    have hflag : (if pre = [] then false else lastIter pre) = lastIter pre := by
      cases pre <;> simp [lastIter]
    refine ⟨hflag ▸ (hat pre o i rest hs).2.1, fun hl => ?_⟩
    -- the previous instruction is an OpIterationNext: the shape check there says this one is OpJumpIfFalse
    cases hp : pre.getLast? with
    | none => simp [lastIter, hp] at hl
    | some pj =>
      obtain ⟨pre0, rfl⟩ := List.getLast?_eq_some_iff.mp hp
      have hjop : pj.2.op = .iterationNext := by simpa [lastIter] using hl
      simpa [followedByCondJump] using (hat pre0 pj.1 pj.2 ((o, i) :: rest) (by simp [hs])).2.2 hjop

theorem check_none {cs : List Bool} {main : Bytes} {funcs : List Bytes} (h : check cs main funcs = none) :
    checkBody cs ⟨main, false⟩ = none ∧ ∀ f, f ∈ funcs → checkBody cs ⟨f, true⟩ = none := by
  have go : ∀ (fs : List Bytes) (k : Nat), check.go cs k fs = none → ∀ f, f ∈ fs → checkBody cs ⟨f, true⟩ = none := by
    intro fs
    induction fs with
    | nil => intro _ _ _ hm; cases hm
    | cons g rest ih =>
      intro k h f hm
      simp only [check.go] at h
      split at h
      · cases h
      · rename_i hb
        rcases List.mem_cons.mp hm with rfl | hin
        · exact hb
        · exact ih (k + 1) h f hin
  unfold check at h
  split at h
  · cases h
  · rename_i hb
    exact ⟨hb, go funcs 1 h⟩

theorem check_ok (cs : List Bool) (main : Bytes) (funcs : List Bytes) (h : check cs main funcs = none) :
    (∃ instrs cert, StaticOk cs.length main instrs ∧ StackOk main instrs cert) ∧
    ∀ f, f ∈ funcs → ∃ instrs cert, StaticOk cs.length f instrs ∧ StackOk f instrs cert :=
  ⟨checkBody_ok cs _ (check_none h).1, fun f hf => checkBody_ok cs _ ((check_none h).2 f hf)⟩

/-- the verifier applied to a machine as `vm.New` built it -/
def checkMachine (M : Machine) : Option (Nat × Bad) :=
  check (M.consts.map (fun v => v.isType .STRING)) M.main (M.funcs.map (·.code))

/-- **A verified machine never reports an unknown opcode, an instruction pointer out of bounds or a bad
    constant.** -/
theorem run_static (M : Machine) (h : checkMachine M = none) (obj : HostVal) (fuel : Nat) (st : RunSt) :
    ¬ internalStatic (run M obj fuel st).1 := by
  obtain ⟨⟨mi, _, hm, _⟩, hf⟩ := check_ok _ _ _ h
  simp only [List.length_map] at hm hf
  exact run_static_of M hm (fun uf huf => have ⟨fi, _, hs, _⟩ := hf uf.code (List.mem_map.mpr ⟨uf, huf, rfl⟩); ⟨fi, hs⟩)
    obj fuel st

end EvalFilter.WF
