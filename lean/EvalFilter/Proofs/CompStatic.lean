/-
  Every accepted script compiles - before the optimizer runs - to a program that satisfies the
  static conditions of the byte-code verifier; so a script prepared with NoOptimize never makes the VM
  report an unknown opcode, an instruction pointer out of bounds or a bad constant.
-/
import EvalFilter.Model.Api
import EvalFilter.Proofs.Compile
import EvalFilter.Proofs.WFCheck

namespace EvalFilter.WF
open EvalFilter.VM EvalFilter.Compiler

theorem withOffsets_fst (base : Nat) (is : List Instr) : (withOffsets base is).map (·.1) = starts base is := by
  induction is generalizing base with
  | nil => rfl
  | cons x xs ih => simp [withOffsets, starts, ih]

theorem withOffsets_snd (base : Nat) (is : List Instr) : (withOffsets base is).map (·.2) = is.map stored := by
  induction is generalizing base with
  | nil => rfl
  | cons x xs ih => simp [withOffsets, ih]

theorem starts_lt {base : Nat} {is : List Instr} {t : Nat} (h : t ∈ starts base is) : t < base + codeSize is := by
  induction is generalizing base with
  | nil => cases h
  | cons x xs ih =>
    simp only [starts, List.mem_cons] at h
    have hx := x.size_pos
    rcases h with rfl | h
    · simp; omega
    · have := ih h; simp; omega

theorem mem_targets {is : List Instr} {i : Instr} (hi : i ∈ is) (hj : i.op = .jump ∨ i.op = .jumpIfFalse) :
    i.arg ∈ targets is := by
  induction is with
  | nil => cases hi
  | cons x xs ih =>
    simp only [targets]
    rcases List.mem_cons.mp hi with rfl | h
    · simp [hj]
    · split
      · exact List.mem_cons_of_mem _ (ih h)
      · exact ih h

theorem staticOk_of_code (n : Nat) (is : List Instr) (hc : Closed 0 is) (hk : CodeOk n is)
    (hs : codeSize is ≤ 65536) : StaticOk n (encodeAll is) (withOffsets 0 is) := by
  have hstored : ∀ {o i}, (o, i) ∈ withOffsets 0 is → ∃ i', i' ∈ is ∧ stored i' = i := by
    intro o i hm
    have : i ∈ (withOffsets 0 is).map (·.2) := List.mem_map.mpr ⟨_, hm, rfl⟩
    rwa [withOffsets_snd, List.mem_map] at this
  refine ⟨decode_encodeAll is 0, fun o i hm hj => ?_, fun o i hm hco => ?_⟩ <;>
    obtain ⟨i', hi', rfl⟩ := hstored hm
  · have hj' : i'.op = .jump ∨ i'.op = .jumpIfFalse := hj
    have ht := hc _ (mem_targets hi' hj')
    have hlt := starts_lt ht
    have h3 : i'.op.length = 3 := by rcases hj' with h | h <;> simp [h, Op.length]
    have : (stored i').arg = i'.arg := by simp [stored, h3]; omega
    rw [← withOffsets_fst] at ht
    obtain ⟨⟨t, j⟩, hj, rfl⟩ := List.mem_map.mp ht
    exact ⟨j, this ▸ hj⟩
  · have := hk i' hi' hco
    have hle : (stored i').arg ≤ i'.arg := by
      simp only [stored]; split
      · exact Nat.mod_le _ _
      · exact Nat.zero_le _
    omega

/-- **Every accepted script compiles to code that satisfies the verifier's static conditions**: main
    body and every function body, and every function body ends in a return. -/
theorem compileProgram_static (prog : Program) (c : Compiled) (h : compileProgram prog = .ok c) :
    StaticOk c.consts.length (encodeAll c.main) (withOffsets 0 c.main) ∧
    ∀ f, f ∈ c.funcs → StaticOk c.consts.length (encodeAll f.code) (withOffsets 0 f.code) ∧ EndsRet f.code := by
  obtain ⟨code, st, hcomp, rfl, hs1, -, hs3⟩ := compileProgram_ok h
  have hR := compileStmts_R hcomp
  have hst : StOk st := hR.funcs (by intro f hf; cases hf)
  refine ⟨staticOk_of_code _ code (compileStmts_closed _ 0 ⟨[], []⟩ _ hcomp) hR.code hs1, fun f hf => ?_⟩
  exact ⟨staticOk_of_code _ f.code (hst f hf).closed (hst f hf).consts (hs3 f hf), (hst f hf).ends⟩

theorem compiled_unoptimized_static (prog : Program) (c : Compiled) (hc : compileProgram prog = .ok c)
    (fns : List (Str × FnImpl)) (done : Nat → Bool) (obj : HostVal) (fuel : Nat) (st : RunSt) :
    ¬ internalStatic (run (Api.newMachine c false fns done) obj fuel st).1 := by
  obtain ⟨hm, hf⟩ := compileProgram_static _ c hc
  refine run_static_of (Api.newMachine c false fns done) (mi := withOffsets 0 c.main) hm (fun uf huf => ?_) obj fuel st
  obtain ⟨f, hfm, rfl⟩ := List.mem_map.mp huf
  exact ⟨_, (hf f hfm).1⟩

/-- **A script prepared with NoOptimize never ends a run with an unknown opcode, an instruction pointer out of
    bounds or a bad constant.** -/
theorem prepared_unoptimized_static (script : List Char) (env : Env) (fns : List (Str × FnImpl)) (done : Nat → Bool)
    (p : Api.Prepared) (env' : Env) (h : Api.prepare script false env fns done = .ok (p, env'))
    (obj : HostVal) (fuel : Nat) (st : RunSt) : ¬ internalStatic (run p.machine obj fuel st).1 := by
  simp only [Api.prepare] at h
  split at h
  · cases h
  · split at h
    · cases h
    · rename_i hc
      cases h
      exact compiled_unoptimized_static _ _ hc fns done obj fuel st

end EvalFilter.WF
