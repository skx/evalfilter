/-
  Compiler + VM correctness for statements over value-producing expressions.  The big-step semantics `execSs`
  says which statements run and in what order; the theorem says the compiled code, placed anywhere in a
  program, does exactly that: the block falls through with the variables and output the semantics gives, or
  `return` ends the script at once with its value, or the first error ends it.
-/
import EvalFilter.Proofs.ExprCorrect

namespace EvalFilter.Exec
open EvalFilter.VM EvalFilter.Compiler

/-- how a statement or block ends; `diverged`: the step budget ran out, or the semantics defines no outcome
    (`failE`, a call whose use does not fit its result) -/
inductive Outcome
  | normal (env : Env) (out : Str)
  | returned (v : Value) (env : Env) (out : Str)
  | failed (e : Err) (env : Env) (out : Str)
  | diverged

structure SFn where
  name : Str
  params : List Str
  body : List Stmt

abbrev FnTable := List SFn

/-- the LAST definition of a name counts: the compiler's `setFunc` replaces an earlier one -/
def FnTable.find (F : FnTable) (name : Str) : Option SFn := F.reverse.find? (fun g => g.name == name)

def isIncDec (op : Str) : Bool := op == ['+', '+'] || op == ['-', '-']

mutual
  /-- the statement forms covered -/
  def stmtE : Expr → Bool
    | .assign _ (.call _ args) => pureEs args
    | .call _ args => pureEs args
    | .funcDef _ _ body => pureSs body
    | .localE _ => true
    | .assign _ v => pureE v
    | .ifE c cons none => pureE c && pureSs cons
    | .ifE c cons (some a) => pureE c && pureSs cons && pureSs a
    | .whileE c body => pureE c && pureSs body
    | .foreachE _ _ v body => pureE v && pureSs body
    | .switchE v cs => pureE v && pureCases cs
    | .infix op (.ident _) r => isCompound op && pureE r
    | _ => false
  def pureCases : List Case → Bool
    | [] => true
    | .mk _ es b :: cs => pureEs es && pureSs b && pureCases cs
  def pureS : Stmt → Bool
    | .ret (.call _ args) => pureEs args
    | .ret e => pureE e
    | .expr e => stmtE e
  /-- `x++;` is parsed as TWO statements - the operand, which leaves its value on the stack, and the postfix
      operator, which takes it off again - so the pair is one unit -/
  def pureSs : List Stmt → Bool
    | [] => true
    | .expr e :: .expr (.postfix _ op) :: ss => isIncDec op && pureE e && pureSs ss
    | s :: ss => pureS s && pureSs ss
end

theorem stmtE_assign (name : Str) (v : Expr) : stmtE (.assign name v) = pureE v := by cases v <;> rfl
theorem pureS_ret (e : Expr) : pureS (.ret e) = pureE e := by cases e <;> rfl

/-- what OpIterationReset makes of the value to iterate over -/
def resetVal : Value → Res
  | .array els => .ok (.array els)
  | .str s => .ok (.str s)
  | .hash ps => .ok (.hash ps)
  | .iterating inner _ => .ok inner
  | .nil => .error .panic
  | _ => err "notIterable"

/-- an error of the expression semantics ends the statement; for `undefErr` ("outside the expression
    semantics") the statement semantics defines no outcome either -/
def failE (e : Err) (env : Env) (o : Str) : Outcome := if e = undefErr then .diverged else .failed e env o

theorem failE_ne {e : Err} (h : e ≠ undefErr) (env : Env) (o : Str) : failE e env o = .failed e env o := by
  simp [failE, h]

/-- what `++` / `--` do to the variable `name` -/
def incDecEnv (obj : HostVal) (env : Env) (name : Str) (inc : Bool) : Except Err Env :=
  match lookup obj env name with
  | .error e => .error e
  | .ok (.int i) => .ok (env.set name (.int (if inc then i + 1 else i - 1)))
  | .ok (.float x) => .ok (env.set name (.float (if inc then x + 1 else x - 1)))
  | .ok _ => .error (.error (if inc then "incType" else "decType"))

/-- how a call ends; `novalue`: with the void value, which is not pushed -/
inductive CallOut
  | value (v : Value) (env : Env) (out : Str)
  | novalue (env : Env) (out : Str)
  | failed (e : Err) (env : Env) (out : Str)
  | undefined

/-- the end of a user-function call: the function's own scope is closed -/
def callEnd (v : Value) (env : Env) (out : Str) : CallOut :=
  match env.removeScope with
  | none => .failed (.error "removeScope") env out
  | some e => if v.isType .VOID then .novalue e out else .value v e out

/-- a call: the arguments left to right; a built-in or host function of that name wins over a user-defined
    one, whose body runs in a new scope holding its parameters (falling off the end gives void) and whose scopes
    are closed afterwards.  `execE …` hands in what depends on budget and depth: `run`, the semantics of a body
    one call deeper with a smaller budget, and `deep`, whether `maxCallDepth` calls are open.  As in vm.go, where
    the scope is opened after the depth test and before the arguments are counted, too deep a call fails in the
    caller's scopes and a wrong argument count in the new one.  The callee's first environment (the fold over
    `params.zip vs`) is written out four times; `Runs.callUser` calls it `envB`. -/
def callWith (deep : Bool) (run : List Stmt → Env → Str → Outcome) (M : Machine) (F : FnTable) (obj : HostVal)
    (name : Str) (args : List Expr) (env : Env) (out : Str) : CallOut :=
  match evalEs M obj env args out with
  | (.error e, o) => if e = undefErr then .undefined else .failed e env o
  | (.ok vs, o) =>
    match lookupFn M name with
    | some impl =>
      (match (callImpl name impl vs).res with
       | .panic => .failed .panic env (o ++ (callImpl name impl vs).out)
       | .unsupported => .failed .unsupported env (o ++ (callImpl name impl vs).out)
       | .val .nil => .failed .panic env (o ++ (callImpl name impl vs).out)
       | .val .void => .novalue env (o ++ (callImpl name impl vs).out)
       | .val v => .value v env (o ++ (callImpl name impl vs).out))
    | none =>
      match F.find name with
      | none => .failed (.error "noSuchFunction") env o
      | some sf =>
        if deep then .failed (.error "callDepth") env o
        else if sf.params.length != vs.length then .failed (.error "argCount") env.addScope o
        else
          match run sf.body ((sf.params.zip vs).foldl (fun e (p : Str × Value) => e.declare p.1 p.2) env.addScope) o with
          | .diverged => .undefined
          | .failed e env' o' => .failed e (env'.truncate ((sf.params.zip vs).foldl (fun e (p : Str × Value) => e.declare p.1 p.2) env.addScope).scopes.length) o'
          | .returned v env' o' => callEnd v (env'.truncate ((sf.params.zip vs).foldl (fun e (p : Str × Value) => e.declare p.1 p.2) env.addScope).scopes.length) o'
          | .normal env' o' => callEnd .void (env'.truncate ((sf.params.zip vs).foldl (fun e (p : Str × Value) => e.declare p.1 p.2) env.addScope).scopes.length) o'

/-- what OpCase decides -/
def caseOp (M : Machine) (val caseVal : Value) : Except Err (Value × Str) :=
  if sameTypeAndText val caseVal then .ok (.bool true, [])
  else if caseVal.isType .REGEXP then callMatch M val caseVal
  else .ok (.bool false, [])

/-- how the tests of a switch end: the switch is over (a block ran, or something failed), or no case
    matched so far -/
inductive ArmOut
  | done (o : Outcome)
  | next (env : Env) (out : Str)

mutual
  /-- big-step semantics of statements, with a step budget (what makes the loops total; every statement, block,
      test and turn takes one unit) -/
  def execE (M : Machine) (F : FnTable) (obj : HostVal) (depth : Nat) : Nat → Expr → Env → Str → Outcome
    | 0, _, _, _ => .diverged
    | _ + 1, .funcDef _ _ _, env, out => .normal env out   -- defining a function does nothing at run time
    | _ + 1, .localE name, env, out => .normal (env.declare name .null) out   -- `local x;`: x is null in the innermost scope
    | f + 1, .assign name (.call fn args), env, out =>
        -- `name = fn(args)`: a call that yields no value has none to assign (no outcome is defined)
        match callWith (decide (depth ≥ maxCallDepth)) (fun b e o => execSs M F obj (depth + 1) f b e o) M F obj fn.str args env out with
        | .value v env' out' => .normal (env'.set name v) out'
        | .novalue _ _ => .diverged
        | .failed e env' out' => .failed e env' out'
        | .undefined => .diverged
    | f + 1, .call fn args, env, out =>
        -- `fn(args);`: a procedure call; a value would be left on the stack (no outcome is defined)
        match callWith (decide (depth ≥ maxCallDepth)) (fun b e o => execSs M F obj (depth + 1) f b e o) M F obj fn.str args env out with
        | .value _ _ _ => .diverged
        | .novalue env' out' => .normal env' out'
        | .failed e env' out' => .failed e env' out'
        | .undefined => .diverged
    | _ + 1, .assign name v, env, out =>
        match evalE M obj env v out with
        | (.ok x, o) => .normal (env.set name x) o
        | (.error e, o) => failE e env o
    | f + 1, .ifE c cons alt, env, out =>
        match evalE M obj env c out with
        | (.error e, o) => failE e env o
        | (.ok cv, o) =>
          if cv.truthy then execSs M F obj depth f cons env o
          else match alt with
            | none => .normal env o
            | some a => execSs M F obj depth f a env o
    | f + 1, .whileE c body, env, out =>
        match evalE M obj env c out with
        | (.error e, o) => failE e env o
        | (.ok cv, o) =>
          if cv.truthy then
            match execSs M F obj depth f body env o with
            | .normal env' o' => execE M F obj depth f (.whileE c body) env' o'
            | other => other
          else .normal env o
    | f + 1, .foreachE idx x v body, env, out =>
        match evalE M obj env v out with
        | (.error e, o) => failE e env o
        | (.ok iv, o) =>
          match resetVal iv with
          | .ok it => execIter M F obj depth f idx x body it 0 env.addScope o
          | .error e => .failed e env.addScope o
    | _ + 1, .infix op (.ident name) r, env, out =>
        -- `name op= r`: the variable's value, then `r`, then the operator; the result is stored
        match compoundOp op with
        | none => .failed .unsupported env out
        | some o =>
          match evalE M obj env (.ident name) out with
          | (.error e, o1) => failE e env o1
          | (.ok lv, o1) =>
            match evalE M obj env r o1 with
            | (.error e, o2) => failE e env o2
            | (.ok rv, o2) =>
              match binop M o lv rv with
              | .error e => .failed e env o2
              | .ok (v, o3) => .normal (env.set name v) (o2 ++ o3)
    | f + 1, .switchE v cs, env, out =>
        match execArms M F obj depth f v cs env out with
        | .done o => o
        | .next env' out' => execDefaults M F obj depth f cs env' out'
    | _ + 1, _, env, out => .failed .unsupported env out
  termination_by structural f => f
  /-- the non-default cases of a switch in source order: the first case expression that matches the value
      (evaluated anew for every test) selects the block; after it the switch is over -/
  def execArms (M : Machine) (F : FnTable) (obj : HostVal) (depth : Nat) : Nat → Expr → List Case → Env → Str → ArmOut
    | 0, _, _, _, _ => .done .diverged
    | _ + 1, _, [], env, out => .next env out
    | f + 1, v, .mk isDef es b :: rest, env, out =>
        if isDef then execArms M F obj depth f v rest env out
        else
          match execArm M F obj depth f v es b env out with
          | .done o => .done o
          | .next env' out' => execArms M F obj depth f v rest env' out'
  termination_by structural f => f
  /-- the expressions of one `case a, b, c { … }`, left to right -/
  def execArm (M : Machine) (F : FnTable) (obj : HostVal) (depth : Nat) : Nat → Expr → List Expr → List Stmt → Env → Str → ArmOut
    | 0, _, _, _, _, _ => .done .diverged
    | _ + 1, _, [], _, env, out => .next env out
    | f + 1, v, e :: es, b, env, out =>
        match evalE M obj env v out with
        | (.error x, o) => .done (failE x env o)
        | (.ok vv, o1) =>
          match evalE M obj env e o1 with
          | (.error x, o) => .done (failE x env o)
          | (.ok ev, o2) =>
            match caseOp M vv ev with
            | .error x => .done (.failed x env o2)
            | .ok (t, o3) =>
              if t.truthy then .done (execSs M F obj depth f b env (o2 ++ o3))
              else execArm M F obj depth f v es b env (o2 ++ o3)
  termination_by structural f => f
  /-- the default blocks (reached when no case matched), in source order -/
  def execDefaults (M : Machine) (F : FnTable) (obj : HostVal) (depth : Nat) : Nat → List Case → Env → Str → Outcome
    | 0, _, _, _ => .diverged
    | _ + 1, [], env, out => .normal env out
    | f + 1, .mk isDef _ b :: rest, env, out =>
        if isDef then
          match execSs M F obj depth f b env out with
          | .normal env' o' => execDefaults M F obj depth f rest env' o'
          | other => other
        else execDefaults M F obj depth f rest env out
  termination_by structural f => f
  /-- the turns of a foreach loop over `it`, from offset `k`: each element is bound (with its index or key if an
      index variable was given) in the loop's scope and the body runs; when none is left that scope is closed -/
  def execIter (M : Machine) (F : FnTable) (obj : HostVal) (depth : Nat) : Nat → Str → Str → List Stmt → Value → Nat → Env → Str → Outcome
    | 0, _, _, _, _, _, _, _ => .diverged
    | f + 1, idx, x, body, it, k, env, out =>
        match iterNext it k with
        | some (val, i) =>
          let env1 := env.declare x val
          let env2 := if idx.isEmpty then env1 else env1.declare idx i
          match execSs M F obj depth f body env2 out with
          | .normal env3 o3 => execIter M F obj depth f idx x body it (k + 1) env3 o3
          | other => other
        | none =>
          match env.removeScope with
          | none => .failed (.error "removeScope") env out
          | some e => .normal e out
  termination_by structural f => f
  def execS (M : Machine) (F : FnTable) (obj : HostVal) (depth : Nat) : Nat → Stmt → Env → Str → Outcome
    | 0, _, _, _ => .diverged
    | f + 1, .ret (.call fn args), env, out =>
        match callWith (decide (depth ≥ maxCallDepth)) (fun b e o => execSs M F obj (depth + 1) f b e o) M F obj fn.str args env out with
        | .value v env' out' => .returned v env' out'
        | .novalue _ _ => .diverged
        | .failed e env' out' => .failed e env' out'
        | .undefined => .diverged
    | _ + 1, .ret e, env, out =>
        match evalE M obj env e out with
        | (.ok v, o) => .returned v env o
        | (.error x, o) => failE x env o
    | f + 1, .expr e, env, out => execE M F obj depth f e env out
  termination_by structural f => f
  def execSs (M : Machine) (F : FnTable) (obj : HostVal) (depth : Nat) : Nat → List Stmt → Env → Str → Outcome
    | 0, _, _, _ => .diverged
    | _ + 1, [], env, out => .normal env out
    | f + 1, .expr e :: .expr (.postfix name op) :: ss, env, out =>
        -- `e op;` with op one of ++ / --: the operand is evaluated (its value is dropped), then the variable
        -- the operator names - the text before it - is looked up and replaced
        match evalE M obj env e out with
        | (.error x, o) => failE x env o
        | (.ok _, o) =>
          match incDecEnv obj env name (op == ['+', '+']) with
          | .error x => .failed x env o
          | .ok env' => execSs M F obj depth f ss env' o
    | f + 1, s :: ss, env, out =>
        match execS M F obj depth f s env out with
        | .normal env' o' => execSs M F obj depth f ss env' o'
        | other => other
  termination_by structural f => f
end

def IsPair (s : Stmt) (ss : List Stmt) : Prop := ∃ e n op rest, s = .expr e ∧ ss = .expr (.postfix n op) :: rest

theorem pureSs_other (s : Stmt) (ss : List Stmt) (h : ¬ IsPair s ss) : pureSs (s :: ss) = (pureS s && pureSs ss) := by
  cases s with
  | ret e => rfl
  | expr e =>
    cases ss with
    | nil => rfl
    | cons s2 rest =>
      cases s2 with
      | ret e2 => rfl
      | expr e2 => cases e2 <;> first | rfl | exact absurd ⟨_, _, _, _, rfl, rfl⟩ h

theorem execSs_other (M : Machine) (F : FnTable) (obj : HostVal) (depth f : Nat) (s : Stmt) (ss : List Stmt) (env : Env) (out : Str)
    (h : ¬ IsPair s ss) :
    execSs M F obj depth (f + 1) (s :: ss) env out =
      (match execS M F obj depth f s env out with
       | .normal env' o' => execSs M F obj depth f ss env' o'
       | other => other) :=
  execSs.eq_4 M F obj depth env out f s ss fun e name op rest h1 h2 => h ⟨e, name, op, rest, h1, h2⟩

/- `chainE`, `finish_instrE`: statements of record (pieces of an inexact run glued as equations of the loop, the
   surplus `e1` in the open).  Use `Runs.trans` and `Runs.instr`, which hide it. -/
theorem chainE {M : Machine} {obj : HostVal} {code : Bytes} {n1 e1 ip : Nat} {stack : List Value} {st : RunSt}
    {f g : Nat → Res × RunSt} (h1 : ∀ fuel, loop M obj code (fuel + n1) ip stack st = f (fuel + e1)) (n2 : Nat)
    (h2 : ∀ fuel, f (fuel + n2) = g fuel) : ∀ fuel, loop M obj code (fuel + (n2 + n1)) ip stack st = g (fuel + e1) := by
  intro fuel
  rw [← Nat.add_assoc, h1, Nat.add_right_comm, h2]

set_option linter.unusedVariables false in   -- `harg` is not needed
theorem finish_instrE {M : Machine} {obj : HostVal} {code : Bytes} {n1 e1 ip0 ip : Nat} {stack0 stack : List Value}
    {st0 : RunSt} {env : Env} {out : Str} {polls depth : Nat} {i : Instr} {rest : List Instr}
    (h1 : ∀ fuel, loop M obj code (fuel + n1) ip0 stack0 st0 = loop M obj code (fuel + e1) ip stack ⟨env, out, polls, depth⟩)
    (hc : CodeAt code ip (i :: rest)) (hM : NeverDone M) (harg : storedArg i = i.arg ∨ i.op.length = 1)
    (a : Nat) (ha : a = storedArg i) (g : Nat → Res × RunSt)
    (hstep : ∀ fuel, (match step M obj code.length (fun c s => loop M obj c fuel 0 [] s) i.op.toNat a (ip + i.size) stack
              ⟨env, out, polls + 1, depth⟩ with
       | .cont ip' stack' st' => loop M obj code fuel ip' stack' st'
       | .halt r st' => (r, st')) = g fuel) :
    ∀ fuel, loop M obj code (fuel + (1 + n1)) ip0 stack0 st0 = g (fuel + e1) := by
  intro fuel
  rw [← Nat.add_assoc, h1, Nat.add_right_comm, exec_one M obj hc _ _ _ (hM polls), ← ha]
  exact hstep _

section
variable {M : Machine} {obj : HostVal} {code : Bytes} {depth ip : Nat} {rest : List Instr} {stack : List Value}
  {env : Env} {out : Str} {x : Bool}

/-- where the run stands after a statement; of `diverged` nothing is claimed -/
def Pt.ofOutcome (ip : Nat) (stack : List Value) : Outcome → Pt
  | .normal env out => .at ip stack env out
  | .returned v env out => .done (.ok v) env out
  | .failed e env out => .done (.error e) env out
  | .diverged => .undef

def Pt.ofArm (endPos nextPos : Nat) (stack : List Value) : ArmOut → Pt
  | .done o => Pt.ofOutcome endPos stack o
  | .next env out => .at nextPos stack env out

def Pt.ofCall (ip : Nat) (stack : List Value) : CallOut → Pt
  | .value v env out => .at ip (v :: stack) env out
  | .novalue env out => .at ip stack env out
  | .failed e env out => .done (.error e) env out
  | .undefined => .undef

theorem Runs.seq {y : Bool} {ip' ip'' : Nat} {stack' stack'' : List Value} {o : Outcome} {g : Env → Str → Outcome}
    (h1 : Runs M obj code depth false ip stack env out (Pt.ofOutcome ip' stack' o))
    (h2 : ∀ env' out', Runs M obj code depth y ip' stack' env' out' (Pt.ofOutcome ip'' stack'' (g env' out'))) :
    Runs M obj code depth false ip stack env out
      (Pt.ofOutcome ip'' stack'' (match (generalizing := false) o with | .normal env' out' => g env' out' | other => other)) := by
  cases o with
  | normal env' out' => exact h1.trans (h2 env' out')
  | _ => exact h1

/-- `seq` where what follows only moves on (jumps, join points) -/
theorem Runs.cont {ip' ip'' : Nat} {stack' stack'' : List Value} {o : Outcome}
    (h1 : Runs M obj code depth false ip stack env out (Pt.ofOutcome ip' stack' o))
    (h2 : ∀ env' out', Runs M obj code depth true ip' stack' env' out' (.at ip'' stack'' env' out')) :
    Runs M obj code depth false ip stack env out (Pt.ofOutcome ip'' stack'' o) := by
  cases o with
  | normal env' out' => exact h1.trans (h2 env' out')
  | _ => exact h1

theorem ofRes_failE {e : Err} {o : Str} {ip ip' : Nat} {stack' : List Value} :
    Pt.ofRes ip stack env (.error e, o) = Pt.ofOutcome ip' stack' (failE e env o) := by
  show (if e = undefErr then Pt.undef else _) = _
  unfold failE; split <;> rfl

/-- a call, then what is done with its value (`g`) or, where it returns nothing, without one (`n`) -/
theorem Runs.called {ip' ip'' : Nat} {stack' stack'' : List Value} {co : CallOut} {g : Value → Env → Str → Outcome}
    {n : Env → Str → Outcome}
    (h1 : Runs M obj code depth false ip stack env out (Pt.ofCall ip' stack' co))
    (hv : ∀ v env' out', Runs M obj code depth true ip' (v :: stack') env' out' (Pt.ofOutcome ip'' stack'' (g v env' out')))
    (hn : ∀ env' out', Runs M obj code depth true ip' stack' env' out' (Pt.ofOutcome ip'' stack'' (n env' out'))) :
    Runs M obj code depth false ip stack env out
      (Pt.ofOutcome ip'' stack'' (match (generalizing := false) co with
        | .value v env' out' => g v env' out'
        | .novalue env' out' => n env' out'
        | .failed e env' out' => .failed e env' out'
        | .undefined => .diverged)) := by
  cases co with
  | value v env' out' => exact h1.trans (hv v env' out')
  | novalue env' out' => exact h1.trans (hn env' out')
  | _ => exact h1

theorem Runs.void (ctx : Ctx M code) (hc : CodeAt code ip (⟨.void, 0⟩ :: rest)) :
    Runs M obj code depth x ip stack env out (.at (ip + 1) (.void :: stack) env out) :=
  Runs.instr ctx.nd hc fun rb polls y hy => by cases hy; rfl

theorem Runs.set (ctx : Ctx M code) (hc : CodeAt code ip (⟨.set, 0⟩ :: rest)) {name val : Value} :
    Runs M obj code depth x ip (name :: val :: stack) env out (.at (ip + 1) stack (env.set name.inspect val) out) :=
  Runs.instr ctx.nd hc fun rb polls y hy => by cases hy; rfl

theorem Runs.local (ctx : Ctx M code) (hc : CodeAt code ip (⟨.local, 0⟩ :: rest)) {name : Value} :
    Runs M obj code depth x ip (name :: stack) env out (.at (ip + 1) stack (env.declare name.inspect .null) out) :=
  Runs.instr ctx.nd hc fun rb polls y hy => by cases hy; rfl

theorem Runs.case (ctx : Ctx M code) (hc : CodeAt code ip (⟨.case, 0⟩ :: rest)) {caseVal val : Value}
    {res : Except Err (Value × Str)} (h : caseOp M val caseVal = res) :
    Runs M obj code depth x ip (caseVal :: val :: stack) env out
      (match (generalizing := false) res with
       | .ok (t, o) => .at (ip + 1) (t :: stack) env (out ++ o)
       | .error e => .done (.error e) env out) :=
  Runs.instr ctx.nd hc fun rb polls y hy => by
    show (if sameTypeAndText val caseVal then _ else if caseVal.isType .REGEXP then _ else _) = y
    subst h
    unfold caseOp at hy
    by_cases h1 : sameTypeAndText val caseVal = true
    · rw [if_pos h1] at hy ⊢; cases hy; rw [List.append_nil]; rfl
    · rw [if_neg h1] at hy ⊢
      by_cases h2 : caseVal.isType .REGEXP = true
      · rw [if_pos h2] at hy ⊢
        cases hm : callMatch M val caseVal <;> rw [hm] at hy <;> cases hy <;> rfl
      · rw [if_neg h2] at hy ⊢; cases hy; rw [List.append_nil]; rfl

theorem Runs.iterationReset (ctx : Ctx M code) (hc : CodeAt code ip (⟨.iterationReset, 0⟩ :: rest)) {v : Value} {res : Res}
    (h : resetVal v = res) :
    Runs M obj code depth x ip (v :: stack) env out
      (match (generalizing := false) res with
       | .ok it => .at (ip + 1) (.iterating it 0 :: stack) env.addScope out
       | .error e => .done (.error e) env.addScope out) :=
  Runs.instr ctx.nd hc fun rb polls y hy => by subst h; cases v <;> cases hy <;> rfl

theorem Runs.iterationNext (ctx : Ctx M code) (hc : CodeAt code ip (⟨.iterationNext, 0⟩ :: rest)) {xn idx it : Value} {k : Nat}
    {nx : Option (Value × Value)} {rs : Option Env} (hn : iterNext it k = nx) (hs : env.removeScope = rs) :
    Runs M obj code depth x ip (xn :: idx :: .iterating it k :: stack) env out
      (match (generalizing := false) nx with
       | some (val, i) => .at (ip + 1) (.bool true :: .iterating it (k + 1) :: stack)
          (if idx.inspect.isEmpty then env.declare xn.inspect val else (env.declare xn.inspect val).declare idx.inspect i) out
       | none =>
         match (generalizing := false) rs with
         | some env' => .at (ip + 1) (.bool false :: stack) env' out
         | none => .done (.error (.error "removeScope")) env out) :=
  Runs.instr ctx.nd hc fun rb polls y hy => by
    show (match iterNext it k with | some (val, i) => _ | none => _) = y
    rw [hn]
    cases nx with
    | some p => cases hy; rfl
    | none =>
      rw [hs]
      cases rs <;> cases hy <;> rfl

theorem step_incDec {len : Nat} {rb : Bytes → RunSt → Res × RunSt} {next : Nat} {st : RunSt} (inc : Bool) {arg : Nat}
    {c : Value} (top : Value) (h : M.consts[arg]? = some c) :
    step M obj len rb (if inc then Op.inc else Op.dec).toNat arg next (top :: stack) st =
      (match incDecEnv obj st.env c.inspect inc with
       | .ok env' => .cont next stack { st with env := env' }
       | .error e => .halt (.error e) st) := by
  unfold incDecEnv
  cases inc
  all_goals
    show (match M.consts[arg]? with | none => _ | some c => _) = _
    rw [h]
    show (match lookup obj st.env c.inspect with | .error e => _ | .ok v => _) = _
    cases lookup obj st.env c.inspect with
    | error e => rfl
    | ok v => cases v <;> rfl

theorem Runs.incDec (ctx : Ctx M code) {cst : CState} {inc : Bool} {name : Str} {top : Value}
    (hc : CodeAt code ip ((withConst cst (if inc then .inc else .dec) (.str name)).1 :: rest))
    (hp : ∃ ex, M.consts = (withConst cst (if inc then .inc else .dec) (.str name)).2.consts ++ ex)
    {res : Except Err Env} (h : incDecEnv obj env name inc = res) :
    Runs M obj code depth x ip (top :: stack) env out
      (match (generalizing := false) res with
       | .ok env' => .at (ip + 3) stack env' out
       | .error e => .done (.error e) env out) := by
  obtain ⟨c, hget, _, hi⟩ := withConst_arg ctx (by cases inc <;> rfl) hp
  refine Runs.instr ctx.nd hc fun rb polls y hy => ?_
  rw [withConst_op, step_incDec inc top hget, show c.inspect = name from hi, h]
  cases inc <;> cases res <;> cases hy <;> rfl

theorem Runs.binary (ctx : Ctx M code) {o : Op} (ho : isBinary o = true)
    (hc : CodeAt code ip (⟨o, 0⟩ :: rest)) {r l : Value} {res : Except Err (Value × Str)} (h : binop M o l r = res) :
    Runs M obj code depth x ip (r :: l :: stack) env out
      (match (generalizing := false) res with
       | .ok (v, o3) => .at (ip + 1) (v :: stack) env (out ++ o3)
       | .error e => .done (.error e) env out) :=
  Runs.instr ctx.nd hc fun rb polls y hy => by
    rw [step_binary ho, h, show ip + Instr.size ⟨o, 0⟩ = ip + 1 from congrArg (ip + ·) (isBinary_length ho)]
    cases res <;> cases hy <;> rfl

theorem Runs.setName (ctx : Ctx M code) {cst : CState} {name : Str} {val : Value} {rest' : List Instr}
    (hk : CodeAt code ip ((withConst cst .constant (.str name)).1 :: rest))
    (hp : ∃ ex, M.consts = (withConst cst .constant (.str name)).2.consts ++ ex)
    (hs : CodeAt code (ip + 3) (⟨.set, 0⟩ :: rest')) :
    Runs M obj code depth x ip (val :: stack) env out (.at (ip + 3 + 1) stack (env.set name val) out) := by
  obtain ⟨c, -, rfl, e⟩ := Runs.const ctx hk hp
  exact e.then (Runs.set ctx hs)

theorem Runs.callHost (ctx : Ctx M code) {vs : List Value} (hn : vs.length < 65536)
    (hc : CodeAt code ip (⟨.call, vs.length⟩ :: rest)) {cn : Value} {name : Str} (hname : cn.inspect = name) {impl : FnImpl}
    (hl : lookupFn M name = some impl) :
    Runs M obj code depth x ip (cn :: (vs.reverse ++ stack)) env out
      (Pt.ofCall (ip + 3) stack
        (match (callImpl name impl vs).res with
         | .panic => .failed .panic env (out ++ (callImpl name impl vs).out)
         | .unsupported => .failed .unsupported env (out ++ (callImpl name impl vs).out)
         | .val .nil => .failed .panic env (out ++ (callImpl name impl vs).out)
         | .val .void => .novalue env (out ++ (callImpl name impl vs).out)
         | .val v => .value v env (out ++ (callImpl name impl vs).out))) :=
  Runs.instr ctx.nd hc fun rb polls y hy => by
    subst hname
    rw [storedArg_of_lt rfl hn, step_call_host hl]
    generalize callImpl cn.inspect impl vs = cr at hy ⊢
    cases hr : cr.res with
    | val v => rw [hr] at hy; cases v <;> cases hy <;> rfl
    | _ => rw [hr] at hy; cases hy; rfl

theorem Runs.callUnknown (ctx : Ctx M code) {vs : List Value} (hn : vs.length < 65536)
    (hc : CodeAt code ip (⟨.call, vs.length⟩ :: rest)) {cn : Value} {name : Str} (hname : cn.inspect = name)
    (hl : lookupFn M name = none) (hu : lookupUser M name = none) :
    Runs M obj code depth x ip (cn :: (vs.reverse ++ stack)) env out (.done (.error (.error "noSuchFunction")) env out) :=
  Runs.instr ctx.nd hc fun rb polls y hy => by
    subst hname
    rw [storedArg_of_lt rfl hn, step_call_user hl, hu]; cases hy; rfl

/-- OpCall on a user-defined function, given how the run of its code ends (`ob`; the code ends in OpReturn, so
    falling off the body's end has become a return of void).  The nested run gets the caller's remaining fuel
    and is not charged to it: the caller goes on with `n` turns more than counted. -/
theorem Runs.callUser (ctx : Ctx M code) {vs : List Value} (hn : vs.length < 65536)
    (hc : CodeAt code ip (⟨.call, vs.length⟩ :: rest)) {cn : Value} {name : Str} (hname : cn.inspect = name) {uf : UserFn}
    (hl : lookupFn M name = none) (hu : lookupUser M name = some uf) (hne : uf.code.isEmpty = false)
    {ipb : Nat} {ob : Outcome} {envB : Env}
    (henv : envB = (uf.params.zip vs).foldl (fun e (p : Str × Value) => e.declare p.1 p.2) env.addScope)
    (hbody : Runs M obj uf.code (depth + 1) x 0 [] envB out
      (Pt.ofOutcome ipb [] (match ob with | .normal env' o' => .returned .void env' o' | other => other))) :
    Runs M obj code depth false ip (cn :: (vs.reverse ++ stack)) env out
      (Pt.ofCall (ip + 3) stack
        (if decide (depth ≥ maxCallDepth) then .failed (.error "callDepth") env out
         else if uf.params.length != vs.length then .failed (.error "argCount") env.addScope out
         else match (generalizing := false) ob with
           | .diverged => .undefined
           | .failed e env' o' => .failed e (env'.truncate envB.scopes.length) o'
           | .returned v env' o' => callEnd v (env'.truncate envB.scopes.length) o'
           | .normal env' o' => callEnd .void (env'.truncate envB.scopes.length) o')) := by
  subst hname
  have hstep : ∀ rb polls, step M obj code.length rb (Instr.op ⟨.call, vs.length⟩).toNat (storedArg ⟨.call, vs.length⟩)
      (ip + Instr.size ⟨.call, vs.length⟩) (cn :: (vs.reverse ++ stack)) ⟨env, out, polls, depth⟩ =
      (match invoke rb uf vs ⟨env, out, polls, depth⟩ with
       | (.error e, st) => .halt (.error e) st
       | (.ok v, st) =>
         match st.env.removeScope with
         | none => .halt (err "removeScope") st
         | some env => .cont (ip + 3) (if v.isType .VOID then stack else v :: stack) { st with env := env }) := by
    intro rb polls; rw [storedArg_of_lt rfl hn]; exact (step_call_user hl).trans (by rw [hu]; rfl)
  by_cases hd : depth ≥ maxCallDepth
  · rw [if_pos (decide_eq_true hd)]
    exact Runs.instr ctx.nd hc fun rb polls y hy => by rw [hstep, invoke, if_pos hd]; cases hy; rfl
  rw [if_neg (by simpa using hd)]
  by_cases ha : (uf.params.length != vs.length) = true
  · rw [if_pos ha]
    exact Runs.instr ctx.nd hc fun rb polls y hy => by rw [hstep, invoke, if_neg hd]; dsimp only; rw [if_pos ha]; cases hy; rfl
  rw [if_neg ha]
  intro polls
  obtain ⟨n, k, q, _, e⟩ := hbody (polls + 1)
  refine ⟨n + 1, 1 + k, n, nofun, fun fuel z hz => ?_⟩
  rw [← Nat.add_assoc, exec_one M obj hc (fuel + n) _ _ (ctx.nd polls), hstep, invoke, if_neg hd]
  rw [if_neg ha, if_neg (by simp [hne])]
  rw [← henv]
  rw [← Nat.add_assoc] at hz
  cases ob with
  | diverged => cases hz
  | failed x env' o' => rw [e fuel _ rfl]; cases hz; rfl
  | returned v env' o' =>
    rw [e fuel _ rfl]
    dsimp only [finish, callEnd] at hz ⊢
    cases hr : (env'.truncate envB.scopes.length).removeScope <;> rw [hr] at hz
    · cases hz; rfl
    · dsimp only at hz
      by_cases hv : v.isType .VOID = true
      · rw [if_pos hv] at hz ⊢; cases hz; rfl
      · rw [if_neg hv] at hz ⊢; cases hz; rfl
  | normal env' o' =>
    rw [e fuel _ rfl]
    dsimp only [finish, callEnd] at hz ⊢
    cases hr : (env'.truncate envB.scopes.length).removeScope <;> rw [hr] at hz <;> cases hz <;> rfl

end

section
variable (M : Machine) (F : FnTable) (obj : HostVal) (code : Bytes)

/-! The induction hypotheses at budget `f` of the semantics: the code, wherever it is placed, runs to where
    the semantics says. -/

def RunsE (f : Nat) : Prop :=
  ∀ {e : Expr} {base : Nat} {cst : CState} {r : List Instr × CState}, stmtE e = true →
    compileExpr e base cst = .ok r → CodeAt code base r.1 → (∃ ex, M.consts = r.2.consts ++ ex) →
    ∀ (stack : List Value) (env : Env) (out : Str) (depth : Nat),
      Runs M obj code depth false base stack env out (Pt.ofOutcome (base + e.size) stack (execE M F obj depth f e env out))

def RunsS (f : Nat) : Prop :=
  ∀ {s : Stmt} {base : Nat} {cst : CState} {r : List Instr × CState}, pureS s = true →
    compileStmt s base cst = .ok r → CodeAt code base r.1 → (∃ ex, M.consts = r.2.consts ++ ex) →
    ∀ (stack : List Value) (env : Env) (out : Str) (depth : Nat),
      Runs M obj code depth false base stack env out (Pt.ofOutcome (base + s.size) stack (execS M F obj depth f s env out))

def RunsSs (f : Nat) : Prop :=
  ∀ {ss : List Stmt} {base : Nat} {cst : CState} {r : List Instr × CState}, pureSs ss = true →
    compileStmts ss base cst = .ok r → CodeAt code base r.1 → (∃ ex, M.consts = r.2.consts ++ ex) →
    ∀ (stack : List Value) (env : Env) (out : Str) (depth : Nat),
      Runs M obj code depth false base stack env out (Pt.ofOutcome (base + Stmt.sizes ss) stack (execSs M F obj depth f ss env out))

/-- a foreach loop from its head (the two name constants before OpIterationNext), the iterator on the stack -/
def RunsIter (f : Nat) : Prop :=
  ∀ {idx x : Str} {v : Expr} {body : List Stmt} {base : Nat} {cst : CState} {r : List Instr × CState},
    pureE v = true → pureSs body = true →
    compileExpr (.foreachE idx x v body) base cst = .ok r → CodeAt code base r.1 → (∃ ex, M.consts = r.2.consts ++ ex) →
    ∀ (it : Value) (k : Nat) (stack : List Value) (env : Env) (out : Str) (depth : Nat),
      Runs M obj code depth false (base + v.size + 1) (.iterating it k :: stack) env out
        (Pt.ofOutcome (base + (Expr.foreachE idx x v body).size) stack (execIter M F obj depth f idx x body it k env out))

def RunsArm (f : Nat) : Prop :=
  ∀ {v : Expr} {es : List Expr} {b : List Stmt} {base endPos : Nat} {cst : CState} {r : List Instr × CState},
    pureE v = true → pureEs es = true → pureSs b = true →
    compileArm (fun b s => compileExpr v b s) v.size (fun bs s => compileStmts b bs s) (Stmt.sizes b) es base endPos cst = .ok r →
    CodeAt code base r.1 → (∃ ex, M.consts = r.2.consts ++ ex) → endPos < code.length →
    base + Case.armSize v.size (Stmt.sizes b) es ≤ endPos →
    ∀ (stack : List Value) (env : Env) (out : Str) (depth : Nat),
      Runs M obj code depth false base stack env out
        (Pt.ofArm endPos (base + Case.armSize v.size (Stmt.sizes b) es) stack (execArm M F obj depth f v es b env out))

def RunsArms (f : Nat) : Prop :=
  ∀ {v : Expr} {cs : List Case} {base endPos : Nat} {cst : CState} {r : List Instr × CState},
    pureE v = true → pureCases cs = true →
    compileArms (fun b s => compileExpr v b s) v.size cs base endPos cst = .ok r →
    CodeAt code base r.1 → (∃ ex, M.consts = r.2.consts ++ ex) → endPos < code.length →
    base + Case.armsSize v.size cs ≤ endPos →
    ∀ (stack : List Value) (env : Env) (out : Str) (depth : Nat),
      Runs M obj code depth false base stack env out
        (Pt.ofArm endPos (base + Case.armsSize v.size cs) stack (execArms M F obj depth f v cs env out))

def RunsDefaults (f : Nat) : Prop :=
  ∀ {cs : List Case} {base : Nat} {cst : CState} {r : List Instr × CState}, pureCases cs = true →
    compileDefaults cs base cst = .ok r → CodeAt code base r.1 → (∃ ex, M.consts = r.2.consts ++ ex) →
    ∀ (stack : List Value) (env : Env) (out : Str) (depth : Nat),
      Runs M obj code depth false base stack env out
        (Pt.ofOutcome (base + Case.defaultsSize cs) stack (execDefaults M F obj depth f cs env out))

structure SIH (f : Nat) : Prop where
  E : RunsE M F obj code f
  S : RunsS M F obj code f
  Ss : RunsSs M F obj code f
  Iter : RunsIter M F obj code f
  Arm : RunsArm M F obj code f
  Arms : RunsArms M F obj code f
  Defaults : RunsDefaults M F obj code f

variable {M F obj code}

theorem compile_postfix {name op : Str} {base : Nat} {cst : CState} {r : List Instr × CState} (hop : isIncDec op = true)
    (h : compileExpr (.postfix name op) base cst = .ok r) :
    r = ([(withConst cst (if op == ['+', '+'] then .inc else .dec) (.str name)).1],
         (withConst cst (if op == ['+', '+'] then .inc else .dec) (.str name)).2) := by
  simp only [compileExpr] at h
  split at h
  · rename_i hpp; cases h; rw [if_pos hpp]
  · rename_i hpp
    have hmm : (op == ['-', '-']) = true := by simpa [isIncDec, hpp] using hop
    rw [if_pos hmm] at h; cases h; rw [if_neg hpp]

theorem incDec_length (b : Bool) : (if b then Op.inc else Op.dec).length = 3 := by cases b <;> rfl

theorem runsSs_succ (ctx : Ctx M code) (f : Nat) (ih : SIH M F obj code f) :
    RunsSs M F obj code (f + 1) := by
  intro ss base cst r hpure h hc hp stack env out depth
  cases ss with
  | nil => exact Runs.refl
  | cons s rest =>
    by_cases hpair : IsPair s rest
    · obtain ⟨e, name, op, rest', rfl, rfl⟩ := hpair
      simp only [pureSs, Bool.and_eq_true] at hpure
      simp only [compileStmts, compileStmt, bind_ok_eq, pure, Except.pure] at h
      obtain ⟨⟨c, st1⟩, h1, ⟨cs, st2⟩, ⟨⟨ci, sti⟩, hi, ⟨cr, str⟩, hr, hcs⟩, h3⟩ := h
      cases h3; cases hcs; cases compile_postfix hpure.1.1 hi
      have pool1 := pool_trans hp (compileStmts_R hr).ext
      simp only [codeAt_append, codeSize_cons, codeSize_nil, compileExpr_size h1, withConst_size, incDec_length,
        Nat.add_zero] at hc
      obtain ⟨hce, hci, hcr⟩ := hc
      simp only [execSs, Stmt.sizes, Stmt.size, Expr.size, ← Nat.add_assoc]
      refine (expr_runs e hpure.1.2 h1 ctx hce (pool_trans pool1 (addConstant_ext st1 (.str name))) obj stack env out
        depth).eval ofRes_failE fun v o => ?_
      cases hx : incDecEnv obj env name (op == ['+', '+']) with
      | error x => exact Runs.incDec ctx hci pool1 hx
      | ok env' => exact (Runs.incDec ctx hci pool1 hx).then (ih.Ss hpure.2 hr hcr hp stack env' o depth)
    rw [pureSs_other s rest hpair, Bool.and_eq_true] at hpure
    rw [execSs_other M F obj depth f s rest env out hpair]
    simp only [compileStmts, bind_ok_eq, pure, Except.pure] at h
    obtain ⟨⟨c, st1⟩, h1, ⟨cs, st2⟩, h2, h3⟩ := h
    cases h3
    simp only [codeAt_append, compileStmt_size h1] at hc
    simp only [Stmt.sizes, ← Nat.add_assoc]
    exact (ih.S hpure.1 h1 hc.1 (pool_trans hp (compileStmts_R h2).ext) stack env out depth).seq
      fun env' out' => ih.Ss hpure.2 h2 hc.2 hp stack env' out' depth

def endsRet (cb : List Instr) : Bool := match cb.getLast? with | some i => i.op == Op.return | none => false
/-- the code of a function: its body, and `OpVoid; OpReturn` unless the body's last instruction is a return -/
def fnCode (cb : List Instr) : List Instr := if endsRet cb then cb else cb ++ [⟨Op.void, 0⟩, ⟨Op.return, 0⟩]

/-- the compiled functions of the machine are those of the table.  The last clause makes `fnCode` right: a body
    whose code ends in OpReturn gets no `OpVoid; OpReturn` behind it, so its semantics must never fall off its
    end (`endsRet_never_normal`); it speaks of `execSs`, hence `obj`. -/
structure FnOK (M : Machine) (F : FnTable) (obj : HostVal) : Prop where
  missing : ∀ name, F.find name = none → lookupUser M name = none
  found : ∀ name sf, F.find name = some sf → ∃ uf cst r, lookupUser M name = some uf ∧ uf.params = sf.params ∧
      pureSs sf.body = true ∧ compileStmts sf.body 0 cst = .ok r ∧ uf.code = encodeAll (fnCode r.1) ∧
      (∃ ex, M.consts = r.2.consts ++ ex) ∧ uf.code.length ≤ 65536 ∧
      (endsRet r.1 = true → ∀ depth f env out e' o', execSs M F obj depth f sf.body env out ≠ .normal e' o')

theorem fnCode_ne_nil (cb : List Instr) : encodeAll (fnCode cb) ≠ [] := by
  intro hx
  have hl := congrArg List.length hx
  rw [encodeAll_length] at hl
  unfold fnCode at hl
  split at hl
  · cases cb with
    | nil => contradiction
    | cons hd tl => have := hd.size_pos; simp only [codeSize_cons, List.length_nil] at hl; omega
  · simp [codeSize_append, Instr.size, Op.length] at hl

/-- `ipb` is arbitrary: the outcome is never `.normal`, so `Pt.ofOutcome` does not look at it -/
theorem callee_run (f : Nat) (ihAll : ∀ code', Ctx M code' → SIH M F obj code' f) (hnd : NeverDone M)
    (hpool : M.consts.length ≤ 65536) {body : List Stmt} {uf : UserFn} {cst : CState} {r : List Instr × CState}
    (hpb : pureSs body = true) (hcomp : compileStmts body 0 cst = .ok r) (hcode : uf.code = encodeAll (fnCode r.1))
    (hp : ∃ ex, M.consts = r.2.consts ++ ex) (hlen : uf.code.length ≤ 65536)
    (hends : endsRet r.1 = true → ∀ depth f env out e' o', execSs M F obj depth f body env out ≠ .normal e' o')
    {ipb : Nat} (env : Env) (out : Str) (depth : Nat) :
    Runs M obj uf.code depth false 0 [] env out
      (Pt.ofOutcome ipb []
        (match execSs M F obj depth f body env out with | .normal env' o' => .returned .void env' o' | other => other)) := by
  have ctx' : Ctx M uf.code := ⟨hnd, hlen, hpool⟩
  have hat := hcode ▸ codeAt_encodeAll (fnCode r.1)
  unfold fnCode at hat
  by_cases he : endsRet r.1 = true
  · rw [if_pos he] at hat
    have hb := (ihAll uf.code ctx').Ss hpb hcomp hat hp [] env out depth
    cases ho : execSs M F obj depth f body env out with
    | normal env' o' => exact absurd ho (hends he _ _ _ _ _ _)
    | _ => rw [ho] at hb; exact hb
  · rw [if_neg he, codeAt_append, codeAt_cons, compileStmts_size hcomp] at hat
    exact ((ihAll uf.code ctx').Ss hpb hcomp hat.1 hp [] env out depth).seq
      fun env' o' => (Runs.void ctx' hat.2.1).then (Runs.ret (x := true) ctx' hat.2.2)

/-- **A call runs as the language defines** (`callWith`). -/
theorem call_ok (ctx : Ctx M code) (hF : FnOK M F obj) (f : Nat) (ihAll : ∀ code', Ctx M code' → SIH M F obj code' f)
    {fn : Expr} {args : List Expr} {base : Nat} {cst : CState} {r : List Instr × CState} (hpa : pureEs args = true)
    (h : compileExpr (.call fn args) base cst = .ok r) (hc : CodeAt code base r.1) (hp : ∃ ex, M.consts = r.2.consts ++ ex)
    (stack : List Value) (env : Env) (out : Str) (depth : Nat) :
    Runs M obj code depth false base stack env out
      (Pt.ofCall (base + (Expr.call fn args).size) stack
        (callWith (decide (depth ≥ maxCallDepth)) (fun b e o => execSs M F obj (depth + 1) f b e o) M F obj fn.str args env out)) := by
  simp only [compileExpr, bind_ok_eq, pure, Except.pure] at h
  obtain ⟨⟨ca, st1⟩, h1, h3⟩ := h
  cases h3
  simp only [codeAt_append, codeAt_cons, compileExprs_size h1, withConst_size, Op.length] at hc
  obtain ⟨hca, hk, hcall⟩ := hc
  have e1 := exprs_runs args hpa h1 ctx hca (pool_trans hp (addConstant_ext st1 (.str fn.str))) obj stack env out depth
  unfold callWith
  cases hev : evalEs M obj env args out with | mk res o1
  rw [hev] at e1
  cases res with
  | error x => rw [apply_ite (Pt.ofCall _ stack)]; exact e1.inexact
  | ok vs =>
    obtain ⟨cn, -, hname, ek⟩ := Runs.const ctx hk hp
    have e2 := e1.then ek
    have hn : vs.length < 65536 := by
      have h1 := pures_length_le args hpa; have h2 := hcall.bound; have h3 := ctx.len
      have h4 := evalEs_length M obj env args out vs o1 hev; omega
    rw [← evalEs_length M obj env args out vs o1 hev] at hcall
    cases hl : lookupFn M fn.str with
    | some impl => exact e2.then (Runs.callHost ctx hn hcall hname hl)
    | none =>
      cases hfind : F.find fn.str with
      | none => exact e2.then (Runs.callUnknown ctx hn hcall hname hl (hF.missing _ hfind))
      | some sf =>
        obtain ⟨uf, cst2, r2, hu, hpar, hpb, hcomp, hcode, hp2, hlen2, hends⟩ := hF.found fn.str sf hfind
        have hne : uf.code.isEmpty = false := by
          rw [hcode, List.isEmpty_eq_false_iff]; exact fnCode_ne_nil r2.1
        dsimp only
        rw [← hpar]
        exact e2.then (Runs.callUser ctx hn hcall hname hl hu hne rfl
          (callee_run (ipb := 0) f ihAll ctx.nd ctx.pool hpb hcomp hcode hp2 hlen2 hends _ _ _))

theorem execS_ret (depth f : Nat) (e : Expr) (env : Env) (out : Str) (h : ∀ fn args, e ≠ .call fn args) :
    execS M F obj depth (f + 1) (.ret e) env out =
      (match evalE M obj env e out with
       | (.error x, o) => failE x env o
       | (.ok v, o) => .returned v env o) := by
  rw [execS.eq_3 M F obj depth env out f e h]
  rcases evalE M obj env e out with ⟨_ | _, _⟩ <;> rfl

theorem execE_assign (depth f : Nat) (name : Str) (v : Expr) (env : Env) (out : Str) (h : ∀ fn args, v ≠ .call fn args) :
    execE M F obj depth (f + 1) (.assign name v) env out =
      (match evalE M obj env v out with
       | (.error e, o) => failE e env o
       | (.ok x, o) => .normal (env.set name x) o) := by
  rw [execE.eq_6 M F obj depth env out f name v h]
  rcases evalE M obj env v out with ⟨_ | _, _⟩ <;> rfl

theorem runsS_succ (ctx : Ctx M code) (hF : FnOK M F obj) (f : Nat) (ihAll : ∀ code', Ctx M code' → SIH M F obj code' f) :
    RunsS M F obj code (f + 1) := by
  intro s base cst r hpure h hc hp stack env out depth
  cases s with
  | expr e => exact (ihAll code ctx).E hpure h hc hp stack env out depth
  | ret e =>
    simp only [compileStmt, bind_ok_eq, pure, Except.pure] at h
    obtain ⟨⟨c, st1⟩, h1, h3⟩ := h
    cases h3
    rw [pureS_ret] at hpure
    simp only [codeAt_append, compileExpr_size h1] at hc
    by_cases hcall : ∃ fn args, e = .call fn args
    · obtain ⟨fn, args, rfl⟩ := hcall
      exact (call_ok ctx hF f ihAll hpure h1 hc.1 hp stack env out depth).called (fun _ _ _ => Runs.ret ctx hc.2)
        fun _ _ => Runs.undef
    · rw [execS_ret depth f e env out fun fn args h => hcall ⟨fn, args, h⟩]
      exact (expr_runs e hpure h1 ctx hc.1 hp obj stack env out depth).eval ofRes_failE fun v o => Runs.ret ctx hc.2

theorem runsE_succ (ctx : Ctx M code) (hF : FnOK M F obj) (f : Nat) (ihAll : ∀ code', Ctx M code' → SIH M F obj code' f) :
    RunsE M F obj code (f + 1) := by
  have ih := ihAll code ctx
  intro e base cst r hpure h hc hp stack env out depth
  have hbound := hc.bound
  cases e with
  | funcDef fname params body =>
    exact Runs.refl
  | localE name =>
    cases h
    simp only [codeAt_cons] at hc
    obtain ⟨cn, -, rfl, ek⟩ := Runs.const ctx hc.1 hp
    exact ek.then (Runs.local ctx hc.2)
  | call fn args =>
    exact (call_ok ctx hF f ihAll hpure h hc hp stack env out depth).called (fun _ _ _ => Runs.undef) fun _ _ => Runs.refl
  | assign name v =>
    simp only [compileExpr, bind_ok_eq, pure, Except.pure] at h
    obtain ⟨⟨cv, st1⟩, h1, h3⟩ := h
    cases h3
    rw [stmtE_assign] at hpure
    simp only [codeAt_append, codeAt_cons, compileExpr_size h1, withConst_size, Op.length] at hc
    obtain ⟨hcv, hk, hset⟩ := hc
    have p1 := pool_trans hp (addConstant_ext st1 (.str name))
    by_cases hcall : ∃ fn args, v = .call fn args
    · obtain ⟨fn, args, rfl⟩ := hcall
      exact (call_ok ctx hF f ihAll hpure h1 hcv p1 stack env out depth).called (fun _ _ _ => Runs.setName ctx hk hp hset)
        fun _ _ => Runs.undef
    · rw [execE_assign depth f name v env out fun fn args h => hcall ⟨fn, args, h⟩]
      exact (expr_runs v hpure h1 ctx hcv p1 obj stack env out depth).eval ofRes_failE
        fun x o => Runs.setName ctx hk hp hset
  | ifE c cons alt =>
    cases alt with
    | none =>
      simp only [compileExpr, bind_ok_eq, pure, Except.pure] at h
      obtain ⟨⟨cc, st1⟩, h1, ⟨ca, st2⟩, h2, h3⟩ := h
      cases h3
      simp only [stmtE, Bool.and_eq_true] at hpure
      simp only [codeAt_append, codeSize_append, codeSize_cons, codeSize_nil, compileExpr_size h1,
        compileStmts_size h2, Instr.size, Op.length, ← Nat.add_assoc, Nat.add_zero] at hc hbound
      obtain ⟨⟨⟨hcc, hjif⟩, hca⟩, hph⟩ := hc
      simp only [execE, Expr.size, ← Nat.add_assoc, Nat.add_zero]
      refine (expr_runs c hpure.1 h1 ctx hcc (pool_trans hp (compileStmts_R h2).ext) obj stack env out
        depth).eval ofRes_failE fun cv o => (Runs.jif ctx hjif (by omega)).then ?_
      split
      · exact (ih.Ss hpure.2 h2 hca hp stack env o depth).cont fun _ _ => Runs.placeholder ctx hph
      · exact Runs.placeholder ctx hph
    | some a =>
      simp only [compileExpr, bind_ok_eq, pure, Except.pure] at h
      obtain ⟨⟨cc, st1⟩, h1, ⟨ca, st2⟩, h2, ⟨cb, st3⟩, h4, h5⟩ := h
      cases h5
      simp only [stmtE, Bool.and_eq_true] at hpure
      have p2 := pool_trans hp (compileStmts_R h4).ext
      simp only [codeAt_append, codeSize_append, codeSize_cons, codeSize_nil, compileExpr_size h1,
        compileStmts_size h2, compileStmts_size h4, Instr.size, Op.length, ← Nat.add_assoc,
        Nat.add_zero] at hc hbound
      obtain ⟨⟨⟨⟨⟨hcc, hjif⟩, hca⟩, hjmp⟩, hcb⟩, hph⟩ := hc
      simp only [execE, Expr.size, ← Nat.add_assoc]
      refine (expr_runs c hpure.1.1 h1 ctx hcc (pool_trans p2 (compileStmts_R h2).ext) obj stack env out
        depth).eval ofRes_failE fun cv o => (Runs.jif ctx hjif (by omega)).then ?_
      split
      · exact (ih.Ss hpure.1.2 h2 hca p2 stack env o depth).cont
          fun _ _ => (Runs.jump ctx hjmp (by omega)).then (Runs.placeholder ctx hph)
      · exact (ih.Ss hpure.2 h4 hcb hp stack env o depth).cont fun _ _ => Runs.placeholder ctx hph
  | whileE c body =>
    have again := ih.E hpure h hc hp stack
    simp only [compileExpr, bind_ok_eq, pure, Except.pure] at h
    obtain ⟨⟨cc, st1⟩, h1, ⟨cb, st2⟩, h2, h3⟩ := h
    cases h3
    simp only [stmtE, Bool.and_eq_true] at hpure
    simp only [codeAt_append, codeAt_cons, codeSize_append, codeSize_cons, codeSize_nil, compileExpr_size h1,
      compileStmts_size h2, Instr.size, Op.length, ← Nat.add_assoc, Nat.add_zero] at hc hbound
    obtain ⟨⟨⟨hcc, hjif⟩, hcb⟩, hjmp, hph⟩ := hc
    simp only [execE, Expr.size, ← Nat.add_assoc] at again ⊢
    refine (expr_runs c hpure.1 h1 ctx hcc (pool_trans hp (compileStmts_R h2).ext) obj stack env out
      depth).eval ofRes_failE fun cv o => (Runs.jif ctx hjif (by omega)).then ?_
    split
    · -- the body, the back jump, then `again`: the same loop at the smaller budget
      exact (ih.Ss hpure.2 h2 hcb hp stack env o depth).seq fun env' o' => (Runs.jump ctx hjmp (by omega)).then (again env' o' depth)
    · exact Runs.placeholder ctx hph
  | foreachE idx x v body =>
    simp only [stmtE, Bool.and_eq_true] at hpure
    have loop := ih.Iter hpure.1 hpure.2 h hc hp
    simp only [compileExpr, bind_ok_eq, pure, Except.pure] at h
    obtain ⟨⟨cv, st1⟩, h1, ⟨cb, st2⟩, h2, h3⟩ := h
    cases h3
    simp only [codeAt_append, codeAt_cons, compileExpr_size h1] at hc
    have p1 :=
      pool_trans (pool_trans (pool_trans hp (compileStmts_R h2).ext) (addConstant_ext _ (.str x)))
        (addConstant_ext _ (.str idx))
    refine (expr_runs v hpure.1 h1 ctx hc.1.1.1 p1 obj stack env out depth).eval ofRes_failE fun iv o => ?_
    cases hrv : resetVal iv with
    | error e => exact Runs.iterationReset ctx hc.1.1.2.1 hrv
    | ok it => exact (Runs.iterationReset ctx hc.1.1.2.1 hrv).then (loop it 0 stack _ o depth)
  | switchE v cs =>
    simp only [stmtE, Bool.and_eq_true] at hpure
    simp only [compileExpr, bind_ok_eq, pure, Except.pure] at h
    obtain ⟨st0, h0, ⟨ca, st1⟩, h1, ⟨cd, st2⟩, h2, h3⟩ := h
    cases h3
    simp only [codeAt_append, codeSize_append, codeSize_cons, codeSize_nil, compileArms_size (fun _ _ _ => compileExpr_size) h1,
      compileDefaults_size h2, Instr.size, Op.length, ← Nat.add_assoc, Nat.add_zero] at hc hbound
    obtain ⟨⟨hca, hcd⟩, hph⟩ := hc
    simp only [execE, Expr.size, ← Nat.add_assoc]
    have ea := ih.Arms hpure.1 hpure.2 h1 hca (pool_trans hp (compileDefaults_R h2).ext) (by omega) (by omega)
      stack env out depth
    cases ha : execArms M F obj depth f v cs env out with
    | done o => rw [ha] at ea; exact Runs.cont ea fun _ _ => Runs.placeholder ctx hph
    | next env' out' =>
      rw [ha] at ea
      exact (ea.trans (ih.Defaults hpure.2 h2 hcd hp stack env' out' depth)).cont fun _ _ => Runs.placeholder ctx hph
  | «infix» op l r =>
    cases l with
    | ident name =>
      simp only [stmtE, Bool.and_eq_true] at hpure
      simp only [compileExpr, bind_ok_eq, pure, Except.pure] at h
      obtain ⟨⟨cl, st1⟩, h1, ⟨cr, st2⟩, h2, h3⟩ := h
      simp only [hpure.1, ↓reduceIte] at h3
      cases hco : compoundOp op with
      | none => simp [hco] at h3
      | some o =>
        simp only [hco] at h3
        cases h3
        have hbin : isBinary o = true := by
          unfold compoundOp at hco; split at hco <;> first | (cases hco; rfl) | cases hco
        simp only [codeAt_append, codeAt_cons, codeSize_append, compileExpr_size (e := .ident name) (base := base) h1,
          compileExpr_size h2, Instr.size, isBinary_length hbin, ← Nat.add_assoc] at hc
        obtain ⟨⟨hcl, hcr⟩, hop, hk, hset⟩ := hc
        have p2 := pool_trans hp (addConstant_ext st2 (.str name))
        simp only [execE, hco, Expr.size, hpure.1, ↓reduceIte, ← Nat.add_assoc]
        refine (expr_runs (.ident name) rfl h1 ctx hcl (pool_trans p2 (compileExpr_R h2).ext) obj stack env out
          depth).eval ofRes_failE fun lv o1 => (expr_runs r hpure.2 h2 ctx hcr p2 obj (lv :: stack) env o1 depth).eval ofRes_failE
          fun rv o2 => ?_
        cases hx : binop M o lv rv with
        | error x => exact Runs.binary ctx hbin hop hx
        | ok p => exact (Runs.binary ctx hbin hop hx).then (Runs.setName ctx hk hp hset)
    | _ => simp [stmtE] at hpure
  | _ => simp [stmtE] at hpure

theorem runsArm_succ (ctx : Ctx M code) (f : Nat) (ih : SIH M F obj code f) :
    RunsArm M F obj code (f + 1) := by
  intro v es b base endPos cst r hpv hpes hpb h hc hp hend hle stack env out depth
  cases es with
  | nil =>
    exact Runs.refl
  | cons e rest =>
    simp only [pureEs, Bool.and_eq_true] at hpes
    simp only [compileArm, bind_ok_eq, pure, Except.pure] at h
    obtain ⟨⟨cv', st1⟩, h1, ⟨ce, st2⟩, h2, ⟨cb, st3⟩, h3, ⟨cr, st4⟩, h4, h5⟩ := h
    cases h5
    have p3 := pool_trans hp
      (compileArm_R (fun _ _ _ => compileExpr_R) (fun _ _ _ => compileStmts_R) h4).ext
    have p2 := pool_trans p3 (compileStmts_R h3).ext
    simp only [codeAt_append, codeAt_cons, codeSize_append, codeSize_cons, codeSize_nil, compileExpr_size h1,
      compileExpr_size h2, compileStmts_size h3, Instr.size, Op.length, ← Nat.add_assoc, Nat.add_zero] at hc
    obtain ⟨⟨⟨⟨⟨hcv, hce⟩, hcase, hjif⟩, hcb⟩, hjmp⟩, hcr⟩ := hc
    simp only [execArm, Case.armSize, ← Nat.add_assoc] at hle ⊢
    refine (expr_runs v hpv h1 ctx hcv (pool_trans p2 (compileExpr_R h2).ext) obj stack env out depth).eval ofRes_failE
      fun vv o1 => (expr_runs e hpes.1 h2 ctx hce p2 obj (vv :: stack) env o1 depth).eval ofRes_failE fun ev o2 => ?_
    cases hco : caseOp M vv ev with
    | error x => exact Runs.case ctx hcase hco
    | ok p =>
      refine ((Runs.case ctx hcase hco).then (Runs.jif ctx hjif (by omega))).then ?_
      dsimp only
      split
      · exact (ih.Ss hpb h3 hcb p3 stack env _ depth).cont fun _ _ => Runs.jump ctx hjmp hend
      · exact ih.Arm hpv hpes.2 hpb h4 hcr hp hend (by omega) stack env _ depth

theorem runsArms_succ (f : Nat) (ih : SIH M F obj code f) :
    RunsArms M F obj code (f + 1) := by
  intro v cs base endPos cst r hpv hpc h hc hp hend hle stack env out depth
  cases cs with
  | nil =>
    exact Runs.refl
  | cons c rest =>
    obtain ⟨isDef, es, b⟩ := c
    simp only [pureCases, Bool.and_eq_true] at hpc
    simp only [compileArms] at h
    cases isDef with
    | true =>
      simp only [execArms, Case.armsSize, ↓reduceIte, Nat.zero_add] at hle ⊢
      exact ih.Arms hpv hpc.2 h hc hp hend hle stack env out depth
    | false =>
      simp only [Bool.false_eq_true, ↓reduceIte, bind_ok_eq, pure, Except.pure] at h
      obtain ⟨⟨ca, st1⟩, h1, ⟨cr, st2⟩, h2, h3⟩ := h
      cases h3
      have r2 := compileArms_R (fun _ _ _ => compileExpr_R) h2
      simp only [codeAt_append, compileArm_size (fun _ _ _ => compileExpr_size) (fun _ _ _ => compileStmts_size) h1] at hc
      simp only [execArms, Case.armsSize, Bool.false_eq_true, ↓reduceIte, ← Nat.add_assoc] at hle ⊢
      have ea := ih.Arm hpv hpc.1.1 hpc.1.2 h1 hc.1 (pool_trans hp r2.ext) hend (by omega) stack env out depth
      cases ha : execArm M F obj depth f v es b env out with
      | done o => rw [ha] at ea; exact ea
      | next env' out' => rw [ha] at ea; exact ea.trans (ih.Arms hpv hpc.2 h2 hc.2 hp hend (by omega) stack env' out' depth)

theorem runsDefaults_succ (f : Nat) (ih : SIH M F obj code f) :
    RunsDefaults M F obj code (f + 1) := by
  intro cs base cst r hpc h hc hp stack env out depth
  cases cs with
  | nil =>
    exact Runs.refl
  | cons c rest =>
    obtain ⟨isDef, es, b⟩ := c
    simp only [pureCases, Bool.and_eq_true] at hpc
    simp only [compileDefaults] at h
    cases isDef with
    | false =>
      simp only [execDefaults, Case.defaultsSize, Bool.false_eq_true, ↓reduceIte, Nat.zero_add]
      exact ih.Defaults hpc.2 h hc hp stack env out depth
    | true =>
      simp only [↓reduceIte, bind_ok_eq, pure, Except.pure] at h
      obtain ⟨⟨cb, st1⟩, h1, ⟨cr, st2⟩, h2, h3⟩ := h
      cases h3
      simp only [codeAt_append, compileStmts_size h1] at hc
      simp only [execDefaults, Case.defaultsSize, ↓reduceIte, ← Nat.add_assoc]
      exact (ih.Ss hpc.1.2 h1 hc.1 (pool_trans hp (compileDefaults_R h2).ext) stack env out depth).seq
        fun env' o' => ih.Defaults hpc.2 h2 hc.2 hp stack env' o' depth

theorem runsIter_succ (ctx : Ctx M code) (f : Nat) (ih : SIH M F obj code f) :
    RunsIter M F obj code (f + 1) := by
  intro idx x v body base cst r hpv hpb h hc hp it k stack env out depth
  have again := ih.Iter hpv hpb h hc hp it (k + 1) stack
  have hbound := hc.bound
  simp only [compileExpr, bind_ok_eq, pure, Except.pure] at h
  obtain ⟨⟨cv, st1⟩, h1, ⟨cb, st2⟩, h2, h3⟩ := h
  cases h3
  simp only [codeAt_append, codeAt_cons, codeSize_append, codeSize_cons, codeSize_nil, compileExpr_size h1,
    compileStmts_size h2, Instr.size, withConst_op, Op.length, ← Nat.add_assoc, Nat.add_zero] at hc hbound
  obtain ⟨⟨⟨hcv, hreset, hki, hkx, hnext, hjif⟩, hcb⟩, hjmp, hph⟩ := hc
  have pk := pool_trans hp (compileStmts_R h2).ext
  obtain ⟨ci, -, rfl, eki⟩ := Runs.const ctx hki (pool_trans pk (addConstant_ext _ (.str x)))
  obtain ⟨cx, -, rfl, ekx⟩ := Runs.const ctx hkx pk
  simp only [execIter, Expr.size, ← Nat.add_assoc] at again ⊢
  refine (eki.then ekx).then ?_
  cases hin : iterNext it k with
  | none =>
    cases hrs : env.removeScope with
    | none => exact Runs.iterationNext ctx hnext hin hrs
    | some env' =>
      exact ((Runs.iterationNext ctx hnext hin hrs).then (Runs.jif ctx hjif (by omega))).then (Runs.placeholder ctx hph)
  | some p =>
    exact (((Runs.iterationNext ctx hnext hin rfl).then (Runs.jif ctx hjif (by omega))).then
      (ih.Ss hpb h2 hcb hp _ _ out depth)).seq fun env' o' => (Runs.jump ctx hjmp (by omega)).then (again env' o' depth)

/-- **Statements run as the language defines.**  Induction on the budget of the semantics, for all code bodies
    at once: a call runs the callee's code, so the step to `f + 1` uses the hypothesis at `f` for every body of
    the machine (`ihAll`); `while` and `foreach` re-enter the same construct at `f`. -/
theorem SIH_all (hF : FnOK M F obj) : ∀ (f : Nat) (code : Bytes), Ctx M code → SIH M F obj code f
  | 0, code, _ => by constructor <;> intro _ <;> intros <;> exact Runs.undef
  | f + 1, code, ctx =>
    ⟨runsE_succ ctx hF f (SIH_all hF f), runsS_succ ctx hF f (SIH_all hF f), runsSs_succ ctx f (SIH_all hF f code ctx),
      runsIter_succ ctx f (SIH_all hF f code ctx), runsArm_succ ctx f (SIH_all hF f code ctx), runsArms_succ f (SIH_all hF f code ctx),
      runsDefaults_succ f (SIH_all hF f code ctx)⟩

end

mutual
  theorem normExpr_stmtE : ∀ (e : Expr), stmtE e = true → normExpr e = e
    | .call fn args, h => by simp only [stmtE] at h; simp [normExpr, normExprs_pure args h]
    | .funcDef n ps b, h => by simp only [stmtE] at h; simp [normExpr, normStmts_pure b h]
    | .localE n, _ => by simp [normExpr]
    | .assign n v, h => by rw [stmtE_assign] at h; simp [normExpr, normExpr_pure v h]
    | .ifE c cons none, h => by
      simp only [stmtE, Bool.and_eq_true] at h
      simp [normExpr, normExpr_pure c h.1, normStmts_pure cons h.2]
    | .ifE c cons (some a), h => by
      simp only [stmtE, Bool.and_eq_true] at h
      simp [normExpr, normExpr_pure c h.1.1, normStmts_pure cons h.1.2, normStmts_pure a h.2]
    | .whileE c b, h => by
      simp only [stmtE, Bool.and_eq_true] at h
      simp [normExpr, normExpr_pure c h.1, normStmts_pure b h.2]
    | .foreachE i x v b, h => by
      simp only [stmtE, Bool.and_eq_true] at h
      simp [normExpr, normExpr_pure v h.1, normStmts_pure b h.2]
    | .switchE v cs, h => by
      simp only [stmtE, Bool.and_eq_true] at h
      simp [normExpr, normExpr_pure v h.1, normCases_pure cs h.2]
    | .infix op (.ident n) r, h => by
      simp only [stmtE, Bool.and_eq_true] at h
      simp [normExpr, normExpr_pure r h.2]
  theorem normCases_pure : ∀ (cs : List Case), pureCases cs = true → normCases cs = cs
    | [], _ => rfl
    | .mk d es b :: cs, h => by
      simp only [pureCases, Bool.and_eq_true] at h
      simp [normCases, normExprs_pure es h.1.1, normStmts_pure b h.1.2, normCases_pure cs h.2]
  theorem normStmt_pure : ∀ (s : Stmt), pureS s = true → normStmt s = s
    | .ret e, h => by rw [pureS_ret] at h; simp [normStmt, normExpr_pure e h]
    | .expr e, h => by simp only [pureS] at h; simp [normStmt, normExpr_stmtE e h]
  theorem normStmts_pure : ∀ (ss : List Stmt), pureSs ss = true → normStmts ss = ss
    | [], _ => rfl
    | s :: ss, h => by
      by_cases hpair : IsPair s ss
      · match s, ss, hpair, h with
        | _, _, ⟨e, n, op, rest, rfl, rfl⟩, h =>
          simp only [pureSs, Bool.and_eq_true] at h
          simp [normStmts, normStmt, normExpr, normExpr_pure e h.1.2, normStmts_pure rest h.2]
      · rw [pureSs_other s ss hpair, Bool.and_eq_true] at h
        simp [normStmts, normStmt_pure s h.1, normStmts_pure ss h.2]
end

def programResult (polls depth : Nat) : Outcome → Option (Res × RunSt)
  | .normal env out => some (.ok .null, ⟨env, out, polls, depth⟩)
  | .returned v env out => some (.ok v, ⟨env, out, polls, depth⟩)
  | .failed e env out => some (.error e, ⟨env, out, polls, depth⟩)
  | .diverged => none

/-- **Scripts of the statement forms `pureSs` admits run exactly as the language defines.**  For every accepted
    compilation, host object, environment and host-function table whose user functions are those of `F`
    (`FnOK`), and every budget `f` of the semantics that suffices, a run of the unoptimised program ends with
    the outcome of `execSs` - `return` its value, running off the end null - with the variables and the output
    it prescribes.  (`hne`: `run` refuses an empty main program.  Only the global variables are compared: `run`
    closes the scopes a script leaves open.) -/
theorem program_correct (F : FnTable) (prog : Program) (hp : pureSs prog = true) (hne : 1 ≤ Stmt.sizes prog) (c : Compiled)
    (hc : compileProgram prog = .ok c) (fns : List (Str × FnImpl)) (obj : HostVal) (env : Env) (out : Str)
    (polls depth f : Nat)
    (hF : FnOK (Api.newMachine c false fns (fun _ => false)) F obj)
    (hnd : execSs (Api.newMachine c false fns (fun _ => false)) F obj depth f prog env out ≠ .diverged) :
    ∃ n k, ∀ fuel, ∃ st',
      run (Api.newMachine c false fns (fun _ => false)) obj (fuel + n) ⟨env, out, polls, depth⟩ = st' ∧
      (match programResult (polls + k) depth (execSs (Api.newMachine c false fns (fun _ => false)) F obj depth f prog env out) with
       | some (r, s) => st'.1 = r ∧ st'.2.out = s.out ∧ st'.2.env.globals = s.env.globals ∧ st'.2.polls = s.polls
       | none => True) := by
  obtain ⟨code, st, hcomp, ctx, hmain, hconsts⟩ := compiled_machine hc fns
  generalize Api.newMachine c false fns (fun _ => false) = M at *
  rw [normStmts_pure prog hp] at hcomp
  have hmlen : M.main.length = Stmt.sizes prog := by
    rw [hmain, encodeAll_length]; exact compileStmts_size hcomp
  -- running off the end is read as `return null` (`g`): no outcome is `.normal`, so `ip''` and `stack''` are not looked at
  have hrun := ((SIH_all (F := F) (obj := obj) hF f M.main ctx).Ss hp hcomp (hmain ▸ codeAt_encodeAll code)
    ⟨[], by simp [hconsts]⟩ [] env out depth).seq (ip'' := 0) (stack'' := []) (g := .returned .null)
    fun env' o' => Runs.offEnd (x := true) (by omega)
  cases hoc : execSs M F obj depth f prog env out with
  | diverged => exact absurd hoc hnd
  | _ =>
    rw [hoc] at hrun
    obtain ⟨n, k, hn⟩ := hrun.run (hmlen ▸ hne) polls
    exact ⟨n, k, fun fuel => ⟨_, rfl, by simp [hn, programResult, Env.truncate]⟩⟩

end EvalFilter.Exec
