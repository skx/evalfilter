/-
  Running compiled code that sits somewhere inside a program.  `CodeAt code off is` says the bytes of the
  instructions `is` are found in `code` at offset `off`; `step_*` say what single instructions do (those whose
  effect is a function of the big-step semantics stand next to it, in `ExprCorrect` / `StmtCorrect`).  Then a
  calculus of runs, `Runs`: fuel and poll counts are quantified away inside the relation, so pieces of a run
  are glued without arithmetic.
-/
import EvalFilter.Proofs.VMFrame

namespace EvalFilter.Exec
open EvalFilter.VM

theorem encodeAll_append (a b : List Instr) : encodeAll (a ++ b) = encodeAll a ++ encodeAll b := by
  induction a with
  | nil => rfl
  | cons i is ih => simp [encodeAll, ih]

theorem encode_length (i : Instr) : i.encode.length = i.size := by
  unfold Instr.encode Instr.size Op.hasOperand
  rcases WF.Op.length_cases i.op with h | h <;> simp [h, encode16]

theorem encodeAll_length (is : List Instr) : (encodeAll is).length = codeSize is := by
  induction is with
  | nil => rfl
  | cons i is ih => simp [encodeAll, codeSize, encode_length, ih]

def CodeAt (code : Bytes) (off : Nat) (is : List Instr) : Prop :=
  ∃ pre post, code = pre ++ encodeAll is ++ post ∧ pre.length = off

theorem codeAt_append {code : Bytes} {off : Nat} {a b : List Instr} :
    CodeAt code off (a ++ b) ↔ CodeAt code off a ∧ CodeAt code (off + codeSize a) b := by
  constructor
  · rintro ⟨pre, post, hc, hl⟩
    exact ⟨⟨pre, encodeAll b ++ post, by rw [hc, encodeAll_append]; simp, hl⟩,
      ⟨pre ++ encodeAll a, post, by rw [hc, encodeAll_append]; simp, by simp [hl, encodeAll_length]⟩⟩
  · rintro ⟨⟨pre, post, hc, hl⟩, ⟨pre', post', hc', hl'⟩⟩
    have hp : pre' = pre ++ encodeAll a := by
      have h := hc'.symm.trans hc
      rw [List.append_assoc] at h
      exact (List.append_inj h (by simp [hl', hl, encodeAll_length])).1
    exact ⟨pre, post', by rw [hc', hp, encodeAll_append]; simp, hl⟩

theorem codeAt_cons {code : Bytes} {off : Nat} {i j : Instr} {is : List Instr} :
    CodeAt code off (i :: j :: is) ↔ CodeAt code off [i] ∧ CodeAt code (off + i.size) (j :: is) :=
  codeAt_append (a := [i])

/-- what `Instr.encode` (Go's `emit`) stores as operand -/
def storedArg (i : Instr) : Nat := if i.op.length = 3 then i.arg % 65536 else 0

/-- `OptSim.Fetch` (`Proofs/WFDecode.lean`) is what `loop_fetch_nd` asks for -/
theorem CodeAt.fetch {code : Bytes} {off : Nat} {i : Instr} {rest : List Instr} (h : CodeAt code off (i :: rest)) :
    OptSim.Fetch code off ⟨i.op, storedArg i⟩ := by
  obtain ⟨pre, post, rfl, rfl⟩ := h
  exact (WF.decode_at [] _ _ (WF.decode_encodeAll (i :: rest) pre.length) pre post rfl).1

theorem exec_one (M : Machine) (obj : HostVal) {code : Bytes} {off : Nat} {i : Instr} {rest : List Instr}
    (h : CodeAt code off (i :: rest)) (fuel : Nat) (stack : List Value) (st : RunSt) (hnd : M.done st.polls = false) :
    loop M obj code (fuel + 1) off stack st =
      (match step M obj code.length (fun c s => loop M obj c fuel 0 [] s) i.op.toNat (storedArg i) (off + i.size) stack
              { st with polls := st.polls + 1 } with
       | .cont ip' stack' st' => loop M obj code fuel ip' stack' st'
       | .halt r st' => (r, st')) :=
  loop_fetch_nd M obj h.fetch fuel stack st hnd

/-- the context is never cancelled (`M.done n` answers the n-th poll, one poll per instruction); cancellation is
    C09's subject -/
def NeverDone (M : Machine) : Prop := ∀ n, M.done n = false

/-- what the run rules ask of machine and code: no cancellation, and code and pool within `maxProgramSize`, which
    `compileProgram` enforces (`compiled_machine`) - then the 16-bit operand `Instr.encode` stores is the jump target or
    pool index the compiler wrote (`storedArg_of_lt`) -/
structure Ctx (M : Machine) (code : Bytes) : Prop where
  nd : NeverDone M
  len : code.length ≤ 65536
  pool : M.consts.length ≤ 65536

theorem CodeAt.bound {code : Bytes} {off : Nat} {is : List Instr} (h : CodeAt code off is) : off + codeSize is ≤ code.length := by
  obtain ⟨pre, post, hc, hl⟩ := h
  rw [hc]; simp [encodeAll_length, hl]

theorem storedArg_of_lt {i : Instr} (h3 : i.op.length = 3) (h : i.arg < 65536) : storedArg i = i.arg := by
  rw [storedArg, if_pos h3, Nat.mod_eq_of_lt h]

theorem CodeAt.tail {code : Bytes} {off : Nat} {i : Instr} {rest : List Instr} (h : CodeAt code off (i :: rest)) :
    CodeAt code (off + i.size) rest := by
  simpa [codeSize] using (codeAt_append (a := [i])).1 h |>.2

theorem codeAt_encodeAll (is : List Instr) : CodeAt (encodeAll is) 0 is := ⟨[], [], by simp, rfl⟩

/-! `step` on a concrete opcode is unfolded by computation (`rfl`, `show`), not by rewriting with its equation,
    which spans all 43 opcodes. -/
section steps
variable {M : Machine} {obj : HostVal} {len : Nat} {rb : Bytes → RunSt → Res × RunSt} {arg next : Nat}
  {stack : List Value} {st : RunSt}

theorem step_push : step M obj len rb Op.push.toNat arg next stack st = .cont next (.int (Int64.ofNat arg) :: stack) st :=
  rfl
theorem step_true : step M obj len rb Op.true.toNat arg next stack st = .cont next (.bool true :: stack) st :=
  rfl
theorem step_false : step M obj len rb Op.false.toNat arg next stack st = .cont next (.bool false :: stack) st :=
  rfl
theorem step_nop : step M obj len rb Op.nop.toNat arg next stack st = .cont next stack st :=
  rfl
theorem step_placeholder : step M obj len rb Op.placeholder.toNat arg next stack st = .cont next stack st :=
  rfl
theorem step_constant {c : Value} (h : M.consts[arg]? = some c) :
    step M obj len rb Op.constant.toNat arg next stack st = .cont next (c :: stack) st := by
  show (match M.consts[arg]? with | none => _ | some c => _) = _
  rw [h]
theorem step_jump (h : arg < len) : step M obj len rb Op.jump.toNat arg next stack st = .cont arg stack st :=
  if_neg (Nat.not_le.2 h)
theorem step_jif {c : Value} (h : arg < len) :
    step M obj len rb Op.jumpIfFalse.toNat arg next (c :: stack) st = .cont (if c.truthy then next else arg) stack st := by
  show (if c.truthy then _ else if arg ≥ len then _ else _) = _
  rw [if_neg (Nat.not_le.2 h)]
  cases c.truthy <;> rfl
theorem step_jif_true : step M obj len rb Op.jumpIfFalse.toNat arg next (.bool true :: stack) st = .cont next stack st :=
  rfl

theorem isBinary_length {o : Op} (h : isBinary o = true) : o.length = 1 := by
  cases o <;> first | rfl | cases h

theorem step_binary {o : Op} (ho : isBinary o = true) {r l : Value} :
    step M obj len rb o.toNat arg next (r :: l :: stack) st =
      (match binop M o l r with
       | .error e => .halt (.error e) st
       | .ok (v, out) => .cont next (v :: stack) { st with out := st.out ++ out }) := by
  show (match Op.ofNat? o.toNat with | none => _ | some op => _) = _
  rw [WF.Op.ofNat_toNat]
  exact if_pos ho
theorem step_binary_ok {o : Op} (ho : isBinary o = true) {r l v : Value} {out : Str}
    (h : binop M o l r = .ok (v, out)) :
    step M obj len rb o.toNat arg next (r :: l :: stack) st = .cont next (v :: stack) { st with out := st.out ++ out } := by
  rw [step_binary ho, h]

theorem popN_reverse_append (vs stack : List Value) : popN vs.length (vs.reverse ++ stack) = some (vs, stack) := by
  simp [popN]

theorem step_call_host {cn : Value} {vs : List Value} {impl : FnImpl} (hl : lookupFn M cn.inspect = some impl) :
    step M obj len rb Op.call.toNat vs.length next (cn :: (vs.reverse ++ stack)) st =
      (match (callImpl cn.inspect impl vs).res with
       | .panic => .halt (.error .panic) { st with out := st.out ++ (callImpl cn.inspect impl vs).out }
       | .unsupported => .halt (.error .unsupported) { st with out := st.out ++ (callImpl cn.inspect impl vs).out }
       | .val .nil => .halt (.error .panic) { st with out := st.out ++ (callImpl cn.inspect impl vs).out }
       | .val .void => .cont next stack { st with out := st.out ++ (callImpl cn.inspect impl vs).out }
       | .val v => .cont next (v :: stack) { st with out := st.out ++ (callImpl cn.inspect impl vs).out }) := by
  show (match popN vs.length (vs.reverse ++ stack) with | none => _ | some (args, rest) => _) = _
  rw [popN_reverse_append]
  show (match lookupFn M cn.inspect with | some f => _ | none => _) = _
  rw [hl]
  dsimp only
  generalize callImpl cn.inspect impl vs = r
  obtain ⟨o, v | _ | _⟩ := r
  · cases v <;> rfl
  · rfl
  · rfl

theorem step_call_user {cn : Value} {vs : List Value} (hl : lookupFn M cn.inspect = none) :
    step M obj len rb Op.call.toNat vs.length next (cn :: (vs.reverse ++ stack)) st =
      (match lookupUser M cn.inspect with
       | none => .halt (err "noSuchFunction") st
       | some uf =>
         match invoke rb uf vs st with
         | (.error e, st) => .halt (.error e) st
         | (.ok v, st) =>
           match st.env.removeScope with
           | none => .halt (err "removeScope") st
           | some env => .cont next (if v.isType .VOID then stack else v :: stack) { st with env := env }) := by
  show (match popN vs.length (vs.reverse ++ stack) with | none => _ | some (args, rest) => _) = _
  rw [popN_reverse_append]
  show (match lookupFn M cn.inspect with | some f => _ | none => _) = _
  rw [hl]
  rfl

end steps

/-- where a run gets to: before the instruction at `ip`, or its end; `undef`: the semantics defines no outcome
    and nothing is claimed -/
inductive Pt
  | at (ip : Nat) (stack : List Value) (env : Env) (out : Str)
  | done (r : Res) (env : Env) (out : Str)
  | undef

section
variable (M : Machine) (obj : HostVal) (code : Bytes) (depth : Nat)

/-- what the loop returns when it goes on from the point with `fuel` turns, at poll count `polls` -/
def Pt.run : Pt → Nat → Nat → Option (Res × RunSt)
  | .at ip stack env out, fuel, polls => some (loop M obj code fuel ip stack ⟨env, out, polls, depth⟩)
  | .done r env out, _, polls => some (r, ⟨env, out, polls, depth⟩)
  | .undef, _, _ => none

/-- what one `step` has to return for the run to get to the point; `none`: nothing is asked -/
def Pt.asStep (polls : Nat) : Pt → Option StepOut
  | .at ip stack env out => some (.cont ip stack ⟨env, out, polls, depth⟩)
  | .done r env out => some (.halt r ⟨env, out, polls, depth⟩)
  | .undef => none

/-- From `ip` with `stack`, `env`, `out` the loop gets to `b`, whatever the poll counter: with `fuel + n` turns
    it returns what going on from `b` with `fuel + q` turns returns, `k` polls later (`∀ x ∈ b.run …`: of `.undef`
    nothing is claimed).  `n` is the fuel the piece is charged; `q` is what it has left beyond that, because the
    nested run of a user function gets its caller's remaining fuel and is not charged to it.  `exact = true` says
    `q = 0`: no user function ran, and only then is the run an equation of the loop for every `fuel`
    (`Runs.iff_loop`).  The rules for single instructions hold for either flag.  Glue: `.then` (an exact piece,
    then any), `.trans` (any two); `.inexact` forgets exactness. -/
def Runs (exact : Bool) (ip : Nat) (stack : List Value) (env : Env) (out : Str) (b : Pt) : Prop :=
  ∀ polls, ∃ n k q, (exact = true → q = 0) ∧ ∀ fuel, ∀ x ∈ b.run M obj code depth (fuel + q) (polls + k),
    loop M obj code (fuel + n) ip stack ⟨env, out, polls, depth⟩ = x

variable {M obj code depth}

theorem Runs.inexact {x : Bool} {ip : Nat} {stack : List Value} {env : Env} {out : Str} {b : Pt}
    (h : Runs M obj code depth x ip stack env out b) : Runs M obj code depth false ip stack env out b := fun polls =>
  let ⟨n, k, q, _, e⟩ := h polls
  ⟨n, k, q, nofun, e⟩

theorem Runs.undef {x : Bool} {ip : Nat} {stack : List Value} {env : Env} {out : Str} :
    Runs M obj code depth x ip stack env out .undef :=
  fun _ => ⟨0, 0, 0, fun _ => rfl, fun _ _ h => nomatch h⟩

theorem Runs.refl {x : Bool} {ip : Nat} {stack : List Value} {env : Env} {out : Str} :
    Runs M obj code depth x ip stack env out (.at ip stack env out) :=
  fun _ => ⟨0, 0, 0, fun _ => rfl, fun _ _ h => Option.some.inj h⟩

theorem Runs.trans {x y : Bool} {ip ip' : Nat} {stack stack' : List Value} {env env' : Env} {out out' : Str} {b : Pt}
    (h1 : Runs M obj code depth x ip stack env out (.at ip' stack' env' out'))
    (h2 : Runs M obj code depth y ip' stack' env' out' b) : Runs M obj code depth (x && y) ip stack env out b := by
  intro polls
  obtain ⟨n1, k1, q1, hq1, e1⟩ := h1 polls
  obtain ⟨n2, k2, q2, hq2, e2⟩ := h2 (polls + k1)
  refine ⟨n2 + n1, k1 + k2, q1 + q2, fun h => ?_, fun fuel z hz => ?_⟩
  · simp only [Bool.and_eq_true] at h
    rw [hq1 h.1, hq2 h.2]
  · rw [← Nat.add_assoc, e1 _ _ rfl, Nat.add_right_comm]
    exact e2 _ z (by rwa [Nat.add_assoc fuel, Nat.add_assoc polls])

theorem Runs.then {x : Bool} {ip ip' : Nat} {stack stack' : List Value} {env env' : Env} {out out' : Str} {b : Pt}
    (h1 : Runs M obj code depth true ip stack env out (.at ip' stack' env' out'))
    (h2 : Runs M obj code depth x ip' stack' env' out' b) : Runs M obj code depth x ip stack env out b :=
  h1.trans h2

/-- one instruction whose effect does not depend on nested runs -/
theorem Runs.instr {x : Bool} (hM : NeverDone M) {ip : Nat} {i : Instr} {rest : List Instr}
    (hc : CodeAt code ip (i :: rest)) {stack : List Value} {env : Env} {out : Str} {b : Pt}
    (h : ∀ rb polls, ∀ y ∈ b.asStep depth polls,
          step M obj code.length rb i.op.toNat (storedArg i) (ip + i.size) stack ⟨env, out, polls, depth⟩ = y) :
    Runs M obj code depth x ip stack env out b := by
  intro polls
  refine ⟨1, 1, 0, fun _ => rfl, fun fuel z hz => ?_⟩
  rw [exec_one M obj hc fuel stack ⟨env, out, polls, depth⟩ (hM polls)]
  cases b with
  | undef => cases hz
  | _ => rw [h _ _ _ rfl]; exact Option.some.inj hz

/-- an exact run to `b`, read as equations of the loop: `g` is what the rest of the run from `b` returns,
    `U` says that `b` is no point at all (`hb` is `Pt.ofRes_run`, `Pt.ofVals_run`) -/
theorem Runs.iff_loop {ip : Nat} {stack : List Value} {env : Env} {out : Str} {b : Pt} {U : Prop}
    {g : Nat → Nat → Res × RunSt} (hb : ∀ fuel polls y, y ∈ b.run M obj code depth fuel polls ↔ ¬ U ∧ g fuel polls = y) :
    Runs M obj code depth true ip stack env out b ↔ ∀ polls, ¬ U → ∃ n k, ∀ fuel,
      loop M obj code (fuel + n) ip stack ⟨env, out, polls, depth⟩ = g fuel (polls + k) := by
  constructor
  · intro h polls hU
    obtain ⟨n, k, q, hq, e⟩ := h polls
    cases hq rfl
    exact ⟨n, k, fun fuel => e fuel _ ((hb ..).2 ⟨hU, rfl⟩)⟩
  · intro h polls
    by_cases hU : U
    · exact ⟨0, 0, 0, fun _ => rfl, fun _ y hy => absurd hU ((hb ..).1 hy).1⟩
    · obtain ⟨n, k, e⟩ := h polls hU
      exact ⟨n, k, 0, fun _ => rfl, fun fuel y hy => (e fuel).trans ((hb ..).1 hy).2⟩

theorem Runs.offEnd {x : Bool} {ip : Nat} {stack : List Value} {env : Env} {out : Str} (h : code.length ≤ ip) :
    Runs M obj code depth x ip stack env out (.done (.ok .null) env out) :=
  fun _ => ⟨1, 0, 0, fun _ => rfl, fun _ y hy => by rw [loop, if_pos h]; exact Option.some.inj hy⟩

end

theorem Runs.run {M : Machine} {obj : HostVal} {depth : Nat} {x : Bool} {env env' : Env} {out out' : Str} {r : Res}
    (hne : 0 < M.main.length) (h : Runs M obj M.main depth x 0 [] env out (.done r env' out')) (polls : Nat) :
    ∃ n k, ∀ fuel, run M obj (fuel + n) ⟨env, out, polls, depth⟩ =
      (r, ⟨env'.truncate env.scopes.length, out', polls + k, depth⟩) := by
  obtain ⟨n, k, q, _, e⟩ := h polls
  refine ⟨n, k, fun fuel => ?_⟩
  rw [VM.run, List.isEmpty_eq_false_iff.2 (List.ne_nil_of_length_pos hne), e fuel _ rfl]
  rfl

end EvalFilter.Exec
