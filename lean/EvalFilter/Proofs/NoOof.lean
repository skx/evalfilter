/-
  The out-of-budget marker, which the semantics also uses for "no outcome is defined", is an error of no
  operation of the VM.  So an expression without calls always has a defined outcome (`evalE_defined`),
  and no statement fails with the marker (`exec_noof`).
-/
import EvalFilter.Proofs.StmtCorrect

namespace EvalFilter.Exec
open EvalFilter.VM

def NotOof (e : Err) : Prop := e ≠ .outOfFuel

theorem noof_of_eq {α : Type} {x : Except Err α} {e : Err} (hx : x ≠ .error .outOfFuel) (h : x = .error e) : NotOof e :=
  fun he => hx (he ▸ h)

/-- an operation whose errors are all `OpErr` (`Proofs/VMFrame.lean`, one `*_err` lemma per operator function) never
    fails with the marker -/
theorem ne_oof {α : Type} {x : Except Err α} (h : ∀ {e}, x = .error e → OpErr e) : x ≠ .error .outOfFuel :=
  fun hx => (h hx).noof rfl

theorem poolVal_noof (cs : List Value) (v : Value) : poolVal cs v ≠ .error .outOfFuel := by
  unfold poolVal; (repeat' split) <;> simp [err]

theorem resetVal_noof (v : Value) : resetVal v ≠ .error .outOfFuel := by
  unfold resetVal; split <;> simp [err]

theorem applyPrefix_noof (op : Str) (v : Value) : applyPrefix op v ≠ .error .outOfFuel := by
  unfold applyPrefix; split <;> simp [ne_oof minusOp_err, ne_oof sqrtOp_err]

theorem infixRes_noof (M : Machine) (op : Str) (l r : Value) (out : Str) : (infixRes M op l r out).1 ≠ .error .outOfFuel := by
  have : applyInfix M op l r ≠ .error .outOfFuel := by
    unfold applyInfix; split <;> simp [map_eq_error, ne_oof indexOp_err, ne_oof rangeOp_err, ne_oof binop_err]
  unfold infixRes
  split <;> simp_all

mutual
  def callFree : Expr → Bool
    | .call _ _ => false
    | .prefix _ r => callFree r
    | .infix _ l r => callFree l && callFree r
    | .index l i => callFree l && callFree i
    | .arrayLit els => callFreeEs els
    | .ternary c t f => callFree c && callFree t && callFree f
    | .hashLit ps => callFreePs ps
    | _ => true
  def callFreeEs : List Expr → Bool
    | [] => true
    | e :: es => callFree e && callFreeEs es
  def callFreePs : List Pair → Bool
    | [] => true
    | .mk k v :: ps => callFree k && callFree v && callFreePs ps
end

mutual
  theorem evalE_clean (M : Machine) (obj : HostVal) (env : Env) : ∀ (x : Expr) (out : Str), callFree x = true →
      (evalE M obj env x out).1 ≠ .error .outOfFuel
    | .boolLit _, _, _ => by simp [evalE]
    | .intLit _ _, _, _ => by simp only [evalE]; split <;> simp [poolVal_noof]
    | .floatLit _ _, _, _ | .strLit _, _, _ | .regexpLit _ _ _, _, _ => poolVal_noof _ _
    | .ident name, out, _ => by
      simp only [evalE]
      have := poolVal_noof M.consts (.str name)
      split <;> simp_all [ne_oof lookup_err]
    | .prefix op r, out, hcf => by
      have ih := evalE_clean M obj env r out hcf
      simp only [evalE]
      generalize evalE M obj env r out = p at ih ⊢
      obtain ⟨e | v, o⟩ := p
      · exact ih
      · exact applyPrefix_noof op v
    | .infix op l r, out, hcf => by
      simp only [callFree, Bool.and_eq_true] at hcf
      have ih1 := evalE_clean M obj env l out hcf.1
      simp only [evalE]
      generalize evalE M obj env l out = p at ih1 ⊢
      obtain ⟨e | lv, o1⟩ := p
      · exact ih1
      have ih2 := evalE_clean M obj env r o1 hcf.2
      dsimp only
      generalize evalE M obj env r o1 = p at ih2 ⊢
      obtain ⟨e | rv, o2⟩ := p
      · exact ih2
      · exact infixRes_noof M op lv rv o2
    | .index l i, out, hcf => by
      simp only [callFree, Bool.and_eq_true] at hcf
      have ih1 := evalE_clean M obj env l out hcf.1
      simp only [evalE]
      generalize evalE M obj env l out = p at ih1 ⊢
      obtain ⟨e | lv, o1⟩ := p
      · exact ih1
      have ih2 := evalE_clean M obj env i o1 hcf.2
      dsimp only
      generalize evalE M obj env i o1 = p at ih2 ⊢
      obtain ⟨e | iv, o2⟩ := p
      · exact ih2
      · exact ne_oof indexOp_err
    | .arrayLit els, out, hcf => by
      have ih := evalEs_clean M obj env els out hcf
      simp only [evalE]
      generalize evalEs M obj env els out = p at ih ⊢
      obtain ⟨e | vs, o⟩ := p
      · simpa using ih
      · simp
    | .ternary c t f, out, hcf => by
      simp only [callFree, Bool.and_eq_true] at hcf
      have ih := evalE_clean M obj env c out hcf.1.1
      simp only [evalE]
      generalize evalE M obj env c out = p at ih ⊢
      obtain ⟨e | cv, o⟩ := p
      · exact ih
      dsimp only
      split
      · exact evalE_clean M obj env t o hcf.1.2
      · exact evalE_clean M obj env f o hcf.2
    | .hashLit ps, out, hcf => by
      have ih := evalPs_clean M obj env ps out hcf
      simp only [evalE]
      generalize evalPs M obj env ps out = p at ih ⊢
      obtain ⟨e | kvs, o⟩ := p
      · simpa using ih
      dsimp only
      have := ne_oof (buildHash_err (fuel := kvs.length + 1) (xs := kvs.reverse) (acc := []))
      split <;> simp_all
    | .postfix _ _, _, _ | .assign _ _, _, _ | .ifE _ _ _, _, _ | .whileE _ _, _, _ | .foreachE _ _ _ _, _, _
    | .switchE _ _, _, _ | .funcDef _ _ _, _, _ | .localE _, _, _ => by simp [evalE]
  theorem evalPs_clean (M : Machine) (obj : HostVal) (env : Env) : ∀ (ps : List Pair) (out : Str), callFreePs ps = true →
      (evalPs M obj env ps out).1 ≠ .error .outOfFuel
    | [], _, _ => by simp [evalPs]
    | .mk k v :: ps, out, hcf => by
      simp only [callFreePs, Bool.and_eq_true] at hcf
      have ih1 := evalE_clean M obj env k out hcf.1.1
      simp only [evalPs]
      generalize evalE M obj env k out = p at ih1 ⊢
      obtain ⟨e | kv, o1⟩ := p
      · simpa using ih1
      have ih2 := evalE_clean M obj env v o1 hcf.1.2
      dsimp only
      generalize evalE M obj env v o1 = p at ih2 ⊢
      obtain ⟨e | vv, o2⟩ := p
      · simpa using ih2
      have ih3 := evalPs_clean M obj env ps o2 hcf.2
      dsimp only
      generalize evalPs M obj env ps o2 = p at ih3 ⊢
      obtain ⟨e | vs, o3⟩ := p
      · exact ih3
      · simp
  theorem evalEs_clean (M : Machine) (obj : HostVal) (env : Env) : ∀ (xs : List Expr) (out : Str), callFreeEs xs = true →
      (evalEs M obj env xs out).1 ≠ .error .outOfFuel
    | [], _, _ => by simp [evalEs]
    | x :: xs, out, hcf => by
      simp only [callFreeEs, Bool.and_eq_true] at hcf
      have ih1 := evalE_clean M obj env x out hcf.1
      simp only [evalEs]
      generalize evalE M obj env x out = p at ih1 ⊢
      obtain ⟨e | v, o1⟩ := p
      · simpa using ih1
      have ih2 := evalEs_clean M obj env xs o1 hcf.2
      dsimp only
      generalize evalEs M obj env xs o1 = p at ih2 ⊢
      obtain ⟨e | vs, o2⟩ := p
      · simpa using ih2
      · simp
end

/-- **An expression without calls always has a defined outcome**: the hypothesis of the expression-correctness
    theorem holds for it -/
theorem evalE_defined (M : Machine) (obj : HostVal) (env : Env) (e : Expr) (out : Str) (hcf : callFree e = true) :
    (evalE M obj env e out).1 ≠ .error undefErr :=
  evalE_clean M obj env e out hcf

theorem evalEs_noof (M : Machine) (obj : HostVal) (env : Env) : ∀ (xs : List Expr) (out : Str) (e : Err) (o : Str),
    callFreeEs xs = true → evalEs M obj env xs out = (.error e, o) → NotOof e :=
  fun xs out _ _ hcf h he => evalEs_clean M obj env xs out hcf (by rw [h, he])

theorem evalPs_noof (M : Machine) (obj : HostVal) (env : Env) : ∀ (ps : List Pair) (out : Str) (e : Err) (o : Str),
    callFreePs ps = true → evalPs M obj env ps out = (.error e, o) → NotOof e :=
  fun ps out _ _ hcf h he => evalPs_clean M obj env ps out hcf (by rw [h, he])

theorem failE_failed {y e : Err} {env env' : Env} {o1 o : Str} (h : failE y env o1 = .failed e env' o) : y = e := by
  unfold failE at h
  split at h <;> cases h
  rfl

/-- an error of an argument is not the marker: `callWith` tests for it -/
theorem callWith_noof (deep : Bool) (run : List Stmt → Env → Str → Outcome)
    (hrun : ∀ b env out e env' o, run b env out = .failed e env' o → NotOof e)
    (M : Machine) (F : FnTable) (obj : HostVal) (name : Str) (args : List Expr) (env : Env) (out : Str)
    (e : Err) (env' : Env) (o : Str) (h : callWith deep run M F obj name args env out = .failed e env' o) : NotOof e := by
  unfold callWith callEnd at h
  repeat' split at h
  all_goals cases h
  all_goals first | assumption | exact hrun _ _ _ _ _ _ ‹_› | simp [NotOof]

def Outcome.Clean (oc : Outcome) : Prop := ∀ e env o, oc = .failed e env o → NotOof e
def ArmOut.Clean (a : ArmOut) : Prop := ∀ oc, a = .done oc → oc.Clean

@[simp] theorem clean_normal (env : Env) (o : Str) : (Outcome.normal env o).Clean := fun _ _ _ h => nomatch h
@[simp] theorem clean_returned (v : Value) (env : Env) (o : Str) : (Outcome.returned v env o).Clean := fun _ _ _ h => nomatch h
@[simp] theorem clean_diverged : Outcome.diverged.Clean := fun _ _ _ h => nomatch h
@[simp] theorem clean_failed (x : Err) (env : Env) (o : Str) : (Outcome.failed x env o).Clean ↔ NotOof x :=
  ⟨fun h => h _ _ _ rfl, fun h _ _ _ h' => by cases h'; exact h⟩
@[simp] theorem clean_failE (y : Err) (env : Env) (o : Str) : (failE y env o).Clean := fun _ _ _ h => by
  unfold failE at h
  split at h <;> cases h
  assumption
@[simp] theorem clean_done (oc : Outcome) : (ArmOut.done oc).Clean ↔ oc.Clean :=
  ⟨fun h => h _ rfl, fun h _ h' => by cases h'; exact h⟩
@[simp] theorem clean_next (env : Env) (o : Str) : (ArmOut.next env o).Clean := fun _ h => nomatch h

structure NoOofAt (M : Machine) (F : FnTable) (obj : HostVal) (f : Nat) : Prop where
  E : ∀ depth x env out, (execE M F obj depth f x env out).Clean
  S : ∀ depth s env out, (execS M F obj depth f s env out).Clean
  Ss : ∀ depth ss env out, (execSs M F obj depth f ss env out).Clean
  Iter : ∀ depth idx x body it k env out, (execIter M F obj depth f idx x body it k env out).Clean
  Arms : ∀ depth v cs env out, (execArms M F obj depth f v cs env out).Clean
  Arm : ∀ depth v es b env out, (execArm M F obj depth f v es b env out).Clean
  Defaults : ∀ depth cs env out, (execDefaults M F obj depth f cs env out).Clean

theorem incDecEnv_noof (obj : HostVal) (env : Env) (name : Str) (inc : Bool) : incDecEnv obj env name inc ≠ .error .outOfFuel := by
  unfold incDecEnv
  split <;> simp
  exact (lookup_err ‹_›).noof

theorem caseOp_noof (M : Machine) (v c : Value) : caseOp M v c ≠ .error .outOfFuel := by
  unfold caseOp
  repeat' split
  all_goals simp [ne_oof callMatch_err]

/-- no function of the statement semantics fails with the marker: a branch is no failure, fails through `failE`,
    with an error of its own, or passes on the outcome of a run with a smaller budget (the `simp` with the
    induction hypotheses); what is left fails with the error of an operation or of a call.  (`split` leaves for
    every arm of the match on the budget the equation `f + 1 = 0`, which closes it, or `f + 1 = f' + 1`, which
    names the budget of the recursive calls: `cases ‹f + 1 = _›`.) -/
theorem exec_noof (M : Machine) (F : FnTable) (obj : HostVal) : ∀ f, NoOofAt M F obj f
  | 0 => by constructor <;> intros <;> simp [execE, execS, execSs, execIter, execArms, execArm, execDefaults]
  | f + 1 => by
    have ih := exec_noof M F obj f
    have hcall := fun depth => callWith_noof (decide (depth ≥ maxCallDepth)) _ (ih.Ss (depth + 1)) M F obj
    refine ⟨?_, ?_, ?_, ?_, ?_, ?_, ?_⟩
    · intro depth x env out
      unfold execE
      repeat' split
      all_goals try cases ‹f + 1 = _›
      all_goals try simp [ih.E, ih.Ss, ih.Iter, ih.Defaults, NotOof]
      · exact hcall depth _ _ _ _ _ _ _ ‹_›
      · exact hcall depth _ _ _ _ _ _ _ ‹_›
      · exact noof_of_eq (resetVal_noof _) ‹_›
      · exact (binop_err ‹_›).noof
      · exact ih.Arms _ _ _ _ _ _ ‹_›
    · intro depth s env out
      unfold execS
      repeat' split
      all_goals try cases ‹f + 1 = _›
      all_goals try simp [ih.E, NotOof]
      exact hcall depth _ _ _ _ _ _ _ ‹_›
    · intro depth ss env out
      unfold execSs
      repeat' split
      all_goals try cases ‹f + 1 = _›
      all_goals try simp [ih.S, ih.Ss, NotOof]
      exact noof_of_eq (incDecEnv_noof _ _ _ _) ‹_›
    · intro depth idx x body it k env out
      unfold execIter
      dsimp only
      repeat' split
      all_goals try cases ‹f + 1 = _›
      all_goals try simp [ih.Iter, ih.Ss, NotOof]
    · intro depth v cs env out
      unfold execArms
      repeat' split
      all_goals try cases ‹f + 1 = _›
      all_goals try simp [ih.Arms]
      exact ih.Arm _ _ _ _ _ _ _ ‹_›
    · intro depth v es b env out
      unfold execArm
      repeat' split
      all_goals try cases ‹f + 1 = _›
      all_goals try simp [ih.Arm, ih.Ss, NotOof]
      exact noof_of_eq (caseOp_noof _ _ _) ‹_›
    · intro depth cs env out
      unfold execDefaults
      repeat' split
      all_goals try cases ‹f + 1 = _›
      all_goals simp [ih.Defaults, ih.Ss]

end EvalFilter.Exec
