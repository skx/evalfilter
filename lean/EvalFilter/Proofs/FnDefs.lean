/-
  User-defined functions: what compiling a statement does to the compiler's function table.  The compiler
  registers a function when it compiles its definition - at top level, inside blocks, inside other functions'
  bodies, and in a `switch` once per case expression, because the block of a case is compiled anew for each of
  its expressions; `dE … dSs` list the definitions of a statement in that order.  A relation `Q` between the
  compiler's table, its pool and a source-level table that `Survives` goes from `Q … T` before a statement to
  `Q … (T ++ dE …)` after it (`evolve_E … evolve_Defaults`).
-/
import EvalFilter.Proofs.StmtCorrect

namespace EvalFilter.Exec
open EvalFilter.Compiler

theorem infix_funcs (op : Str) (l r' : Expr) (base : Nat) (st : CState) (r : List Instr × CState)
    (hl : ∀ b s x, compileExpr l b s = .ok x → x.2.funcs = s.funcs)
    (hr : ∀ b s x, compileExpr r' b s = .ok x → x.2.funcs = s.funcs)
    (h : compileExpr (.infix op l r') base st = .ok r) : r.2.funcs = st.funcs := by
  simp only [compileExpr, bind_ok_eq] at h
  obtain ⟨⟨cl, st1⟩, h1, ⟨cr, st2⟩, h2, h3⟩ := h
  have e := (hr _ _ _ h2).trans (hl _ _ _ h1)
  split at h3 <;> split at h3
  · simp only [pure, Except.pure] at h3; cases h3; simp only [withConst_funcs]; exact e
  · cases h3
  · simp only [pure, Except.pure] at h3; cases h3; exact e
  · cases h3

mutual
  theorem pureE_funcs : ∀ (e : Expr) (base : Nat) (st : CState) (r : List Instr × CState), pureE e = true →
      compileExpr e base st = .ok r → r.2.funcs = st.funcs
    | .boolLit _, base, st, r, _, h | .floatLit _ _, base, st, r, _, h | .strLit _, base, st, r, _, h | .regexpLit _ _ _, base, st, r, _, h
    | .ident _, base, st, r, _, h => by
      simp only [compileExpr, pure, Except.pure] at h; cases h; simp only [withConst_funcs]
    | .intLit _ v, base, st, r, _, h => by
      simp only [compileExpr, pure, Except.pure] at h
      split at h <;> cases h
      · rfl
      · simp only [withConst_funcs]
    | .arrayLit els, base, st, r, hp, h => by
      simp only [compileExpr, bind_ok_eq, pure, Except.pure] at h
      obtain ⟨⟨c, st1⟩, h1, h2⟩ := h
      cases h2
      exact pureEs_funcs els base st (c, st1) hp h1
    | .hashLit pairs, base, st, r, hp, h => by
      simp only [compileExpr, bind_ok_eq, pure, Except.pure] at h
      obtain ⟨⟨c, st1⟩, h1, h2⟩ := h
      cases h2
      simp only [pureE, Bool.and_eq_true] at hp
      exact purePs_funcs pairs base st (c, st1) hp.1 h1
    | .infix op l r', base, st, r, hp, h => by
      simp only [pureE, Bool.and_eq_true, Bool.not_eq_true'] at hp
      exact infix_funcs op l r' base st r (fun b s x => pureE_funcs l b s x hp.1.2) (fun b s x => pureE_funcs r' b s x hp.2) h
    | .prefix op r', base, st, r, hp, h => by
      simp only [compileExpr, bind_ok_eq] at h
      obtain ⟨⟨cr, st1⟩, h1, h3⟩ := h
      have e1 := pureE_funcs r' base st _ hp h1
      split at h3
      · simp only [pure, Except.pure] at h3; cases h3; exact e1
      · cases h3
    | .index l i, base, st, r, hp, h => by
      simp only [pureE, Bool.and_eq_true] at hp
      simp only [compileExpr, bind_ok_eq, pure, Except.pure] at h
      obtain ⟨⟨cl, st1⟩, h1, ⟨ci, st2⟩, h2, h3⟩ := h
      cases h3
      exact (pureE_funcs i _ _ _ hp.2 h2).trans (pureE_funcs l base st _ hp.1 h1)
    | .ternary c t f, base, st, r, hp, h => by
      simp only [pureE, Bool.and_eq_true] at hp
      simp only [compileExpr, bind_ok_eq, pure, Except.pure] at h
      obtain ⟨⟨cc, st1⟩, h1, ⟨ct, st2⟩, h2, ⟨cf, st3⟩, h3, h4⟩ := h
      cases h4
      exact ((pureE_funcs f _ _ _ hp.2 h3).trans (pureE_funcs t _ _ _ hp.1.2 h2)).trans (pureE_funcs c base st _ hp.1.1 h1)
    | .call fn args, base, st, r, hp, h => by
      simp only [compileExpr, bind_ok_eq, pure, Except.pure] at h
      obtain ⟨⟨c, st1⟩, h1, h2⟩ := h
      cases h2
      simp only [withConst_funcs]
      exact pureEs_funcs args base st (c, st1) hp h1
    | .postfix _ _, _, _, _, hp, _ | .assign _ _, _, _, _, hp, _ | .ifE _ _ _, _, _, _, hp, _ | .whileE _ _, _, _, _, hp, _
    | .foreachE _ _ _ _, _, _, _, hp, _ | .switchE _ _, _, _, _, hp, _ | .funcDef _ _ _, _, _, _, hp, _
    | .localE _, _, _, _, hp, _ => by simp [pureE] at hp
  theorem pureEs_funcs : ∀ (es : List Expr) (base : Nat) (st : CState) (r : List Instr × CState), pureEs es = true →
      compileExprs es base st = .ok r → r.2.funcs = st.funcs
    | [], base, st, r, _, h => by simp only [compileExprs, pure, Except.pure] at h; cases h; rfl
    | e :: rest, base, st, r, hp, h => by
      simp only [pureEs, Bool.and_eq_true] at hp
      simp only [compileExprs, bind_ok_eq, pure, Except.pure] at h
      obtain ⟨⟨c, st1⟩, h1, ⟨cs, st2⟩, h2, h3⟩ := h
      cases h3
      exact (pureEs_funcs rest _ _ _ hp.2 h2).trans (pureE_funcs e base st _ hp.1 h1)
  theorem purePs_funcs : ∀ (ps : List Pair) (base : Nat) (st : CState) (r : List Instr × CState), purePs ps = true →
      compilePairs ps base st = .ok r → r.2.funcs = st.funcs
    | [], base, st, r, _, h => by simp only [compilePairs, pure, Except.pure] at h; cases h; rfl
    | .mk k v :: rest, base, st, r, hp, h => by
      simp only [purePs, Bool.and_eq_true] at hp
      simp only [compilePairs, bind_ok_eq, pure, Except.pure] at h
      obtain ⟨⟨ck, st1⟩, h1, ⟨cv, st2⟩, h2, ⟨cs, st3⟩, h3, h4⟩ := h
      cases h4
      exact ((purePs_funcs rest _ _ _ hp.2 h3).trans (pureE_funcs v _ _ _ hp.1.2 h2)).trans (pureE_funcs k base st _ hp.1.1 h1)
end

mutual
  /-- no function definition inside -/
  def ndE : Expr → Bool
    | .funcDef _ _ _ => false
    | .ifE _ cons none => ndSs cons
    | .ifE _ cons (some a) => ndSs cons && ndSs a
    | .whileE _ b => ndSs b
    | .foreachE _ _ _ b => ndSs b
    | .switchE _ cs => ndCases cs
    | _ => true
  def ndCases : List Case → Bool
    | [] => true
    | .mk _ _ b :: cs => ndSs b && ndCases cs
  def ndS : Stmt → Bool
    | .ret _ => true
    | .expr e => ndE e
  def ndSs : List Stmt → Bool
    | [] => true
    | s :: ss => ndS s && ndSs ss
end

mutual
  /-- the definitions inside an expression-statement, in the compiler's order: those inside a function's body
      before the function itself; the blocks of a `switch` once per case expression, then the default blocks -/
  def dE : Expr → FnTable
    | .funcDef n ps b => dSs b ++ [⟨n, ps, b⟩]
    | .ifE _ cons none => dSs cons
    | .ifE _ cons (some a) => dSs cons ++ dSs a
    | .whileE _ b => dSs b
    | .foreachE _ _ _ b => dSs b
    | .switchE _ cs => dArms cs ++ dDefaults cs
    | _ => []
  def dArms : List Case → FnTable
    | [] => []
    | .mk isDef es b :: cs => (if isDef then [] else (List.replicate es.length (dSs b)).flatten) ++ dArms cs
  def dDefaults : List Case → FnTable
    | [] => []
    | .mk isDef _ b :: cs => (if isDef then dSs b else []) ++ dDefaults cs
  def dS : Stmt → FnTable
    | .ret _ => []
    | .expr e => dE e
  def dSs : List Stmt → FnTable
    | [] => []
    | s :: ss => dS s ++ dSs ss
end

theorem dE_pure (e : Expr) (h : pureE e = true) : dE e = [] := by
  cases e <;> first | rfl | simp [pureE] at h

mutual
  theorem nd_dE : ∀ (e : Expr), ndE e = true → dE e = []
    | .funcDef _ _ _, h => nomatch h
    | .ifE _ b none, h | .whileE _ b, h | .foreachE _ _ _ b, h => nd_dSs b h
    | .ifE _ cons (some a), h => by
      have h := (Bool.and_eq_true _ _).mp h
      show dSs cons ++ dSs a = []
      rw [nd_dSs cons h.1, nd_dSs a h.2]; rfl
    | .switchE _ cs, h => by
      show dArms cs ++ dDefaults cs = []
      rw [(nd_dCases cs h).1, (nd_dCases cs h).2]; rfl
    | .boolLit _, _ | .intLit _ _, _ | .floatLit _ _, _ | .strLit _, _ | .regexpLit _ _ _, _ | .ident _, _
    | .arrayLit _, _ | .hashLit _, _ | .prefix _ _, _ | .infix _ _ _, _ | .index _ _, _ | .ternary _ _ _, _
    | .postfix _ _, _ | .localE _, _ | .call _ _, _ | .assign _ _, _ => rfl
  theorem nd_dCases : ∀ (cs : List Case), ndCases cs = true → dArms cs = [] ∧ dDefaults cs = []
    | [], _ => ⟨rfl, rfl⟩
    | .mk isDef es b :: cs, h => by
      have h := (Bool.and_eq_true _ _).mp h
      show _ ++ dArms cs = [] ∧ _ ++ dDefaults cs = []
      rw [nd_dSs b h.1, (nd_dCases cs h.2).1, (nd_dCases cs h.2).2]
      cases isDef <;> simp
  theorem nd_dS : ∀ (s : Stmt), ndS s = true → dS s = []
    | .ret _, _ => rfl
    | .expr e, h => nd_dE e h
  theorem nd_dSs : ∀ (ss : List Stmt), ndSs ss = true → dSs ss = []
    | [], _ => rfl
    | s :: ss, h => by
      have h := (Bool.and_eq_true _ _).mp h
      show dS s ++ dSs ss = []
      rw [nd_dS s h.1, nd_dSs ss h.2]; rfl
end

theorem funcDef_compile (n : Str) (ps : List Str) (b : List Stmt) (base : Nat) (st : CState) (r : List Instr × CState)
    (h : compileExpr (.funcDef n ps b) base st = .ok r) :
    ∃ cb stb, compileStmts b 0 st = .ok (cb, stb) ∧
      r = ([], { stb with funcs := setFunc stb.funcs ⟨n, ps, fnCode cb⟩ }) := by
  simp only [compileExpr, bind_ok_eq, pure, Except.pure] at h
  obtain ⟨⟨cb, stb⟩, hb, hb2⟩ := h
  cases hb2
  exact ⟨cb, stb, hb, by unfold fnCode endsRet; cases cb.getLast? <;> rfl⟩

/-- `Q fs consts T` relates the compiler's function table and pool to a source-level table; it survives
    what the compiler does to them: the pool grows at its end, a compiled definition is registered -/
structure Survives (Q : List FnDef → List Value → FnTable → Prop) : Prop where
  ext : ∀ {fs c T} (ex : List Value), Q fs c T → Q fs (c ++ ex) T
  set : ∀ {fs T} (n : Str) (ps : List Str) (b : List Stmt) (cst : CState) (r : List Instr × CState),
    pureSs b = true → compileStmts b 0 cst = .ok r → Q fs r.2.consts T →
    Q (setFunc fs ⟨n, ps, fnCode r.1⟩) r.2.consts (T ++ [⟨n, ps, b⟩])

section
variable {Q : List FnDef → List Value → FnTable → Prop}

theorem Survives.keep (hQ : Survives Q) {st st' : CState} {T : FnTable} (h : Q st.funcs st.consts T)
    (hf : st'.funcs = st.funcs) (hx : ∃ ex, st'.consts = st.consts ++ ex) : Q st'.funcs st'.consts T := by
  obtain ⟨ex, hx⟩ := hx
  rw [hf, hx]; exact hQ.ext ex h

theorem Survives.val (hQ : Survives Q) (v : Expr) (base : Nat) (st : CState) (r : List Instr × CState) (T : FnTable)
    (hv : pureE v = true) (h : compileExpr v base st = .ok r) (hi : Q st.funcs st.consts T) :
    Q r.2.funcs r.2.consts T :=
  hQ.keep hi (pureE_funcs v base st r hv h) (compileExpr_R h).ext

theorem Survives.withConst (hQ : Survives Q) (st : CState) (op : Op) (v : Value) (T : FnTable)
    (hi : Q st.funcs st.consts T) : Q (withConst st op v).2.funcs (withConst st op v).2.consts T :=
  hQ.keep hi (withConst_funcs st op v) (addConstant_ext st v)

mutual
  /-- **compiling a statement registers exactly its definitions**, in the compiler's order -/
  theorem evolve_E (hQ : Survives Q) : ∀ (e : Expr) (base : Nat) (st : CState) (r : List Instr × CState) (T : FnTable),
      stmtE e = true → compileExpr e base st = .ok r → Q st.funcs st.consts T → Q r.2.funcs r.2.consts (T ++ dE e)
    | .funcDef n ps b, base, st, r, T, hs, h, hi => by
      obtain ⟨cb, stb, hb, rfl⟩ := funcDef_compile n ps b base st r h
      have i1 := evolve_Ss hQ b 0 st (cb, stb) T hs hb hi
      simpa [dE, List.append_assoc] using hQ.set n ps b st (cb, stb) hs hb i1
    | .ifE c cons (some a), base, st, r, T, hs, h, hi => by
      simp only [stmtE, Bool.and_eq_true] at hs
      simp only [compileExpr, bind_ok_eq, pure, Except.pure] at h
      obtain ⟨⟨cc, st1⟩, h1, ⟨ca, st2⟩, h2, ⟨cb, st3⟩, h3, h4⟩ := h
      cases h4
      have i1 := hQ.val c base st (cc, st1) T hs.1.1 h1 hi
      have i2 := evolve_Ss hQ cons _ _ (ca, st2) T hs.1.2 h2 i1
      have i3 := evolve_Ss hQ a _ _ (cb, st3) _ hs.2 h3 i2
      simpa [dE, List.append_assoc] using i3
    | .ifE c body none, base, st, r, T, hs, h, hi | .whileE c body, base, st, r, T, hs, h, hi => by
      simp only [stmtE, Bool.and_eq_true] at hs
      simp only [compileExpr, bind_ok_eq, pure, Except.pure] at h
      obtain ⟨⟨cc, st1⟩, h1, ⟨cb, st2⟩, h2, h3⟩ := h
      cases h3
      have i1 := hQ.val c base st (cc, st1) T hs.1 h1 hi
      exact evolve_Ss hQ body _ _ (cb, st2) T hs.2 h2 i1
    | .foreachE idx x v body, base, st, r, T, hs, h, hi => by
      simp only [stmtE, Bool.and_eq_true] at hs
      simp only [compileExpr, bind_ok_eq, pure, Except.pure] at h
      obtain ⟨⟨cv, st1⟩, h1, ⟨cb, st2⟩, h2, h3⟩ := h
      cases h3
      have i1 := hQ.val v base st (cv, st1) T hs.1 h1 hi
      have i3 := hQ.withConst _ .constant (.str x) T (hQ.withConst st1 .constant (.str idx) T i1)
      exact evolve_Ss hQ body _ _ (cb, st2) T hs.2 h2 i3
    | .switchE v cs, base, st, r, T, hs, h, hi => by
      simp only [stmtE, Bool.and_eq_true] at hs
      simp only [compileExpr, bind_ok_eq, pure, Except.pure] at h
      obtain ⟨st0, h0, ⟨ca, st1⟩, h1, ⟨cd, st2⟩, h2, h3⟩ := h
      cases h3
      -- `st0`: a switch without case expressions compiles its value all the same and drops the code
      have i0 : Q st0.funcs st0.consts T := by
        split at h0
        · cases h0; exact hi
        · simp only [bind_ok_eq] at h0
          obtain ⟨⟨c0, s0⟩, hv, hs0⟩ := h0
          cases hs0
          exact hQ.val v base st (c0, s0) T hs.1 hv hi
      have i1 := evolve_Arms hQ (fun b s => compileExpr v b s) v.size
        (fun b s r T hr hi => hQ.val v b s r T hs.1 hr hi) cs _ _ _ (ca, st1) T hs.2 h1 i0
      have i2 := evolve_Defaults hQ cs _ _ (cd, st2) _ hs.2 h2 i1
      simpa [dE, List.append_assoc] using i2
    | .assign name v, base, st, r, T, hs, h, hi => by
      simp only [compileExpr, bind_ok_eq, pure, Except.pure] at h
      obtain ⟨⟨cv, st1⟩, h1, h2⟩ := h
      cases h2
      simpa [dE] using hQ.withConst st1 .constant (.str name) T
        (hQ.val v base st (cv, st1) T (stmtE_assign name v ▸ hs) h1 hi)
    | .call fn args, base, st, r, T, hs, h, hi => by
      simpa [dE] using hQ.val (.call fn args) base st r T hs h hi
    | .infix op l r', base, st, r, T, hs, h, hi => by
      cases l <;> simp only [stmtE, Bool.and_eq_true, Bool.false_eq_true] at hs
      simpa [dE] using hQ.keep hi (infix_funcs op _ r' base st r (fun b s x => pureE_funcs _ b s x rfl)
        (fun b s x => pureE_funcs r' b s x hs.2) h) (compileExpr_R h).ext
    | .localE name, base, st, r, T, hs, h, hi => by
      simp only [compileExpr, pure, Except.pure] at h; cases h
      simpa [dE] using hQ.withConst st .constant (.str name) T hi
    | .boolLit _, _, _, _, _, hs, _, _ | .floatLit _ _, _, _, _, _, hs, _, _ | .intLit _ _, _, _, _, _, hs, _, _
    | .strLit _, _, _, _, _, hs, _, _ | .regexpLit _ _ _, _, _, _, _, hs, _, _ | .ident _, _, _, _, _, hs, _, _
    | .arrayLit _, _, _, _, _, hs, _, _ | .hashLit _, _, _, _, _, hs, _, _ | .prefix _ _, _, _, _, _, hs, _, _
    | .index _ _, _, _, _, _, hs, _, _ | .ternary _ _ _, _, _, _, _, hs, _, _ | .postfix _ _, _, _, _, _, hs, _, _ =>
      by simp [stmtE] at hs
  theorem evolve_S (hQ : Survives Q) : ∀ (s : Stmt) (base : Nat) (st : CState) (r : List Instr × CState) (T : FnTable),
      pureS s = true → compileStmt s base st = .ok r → Q st.funcs st.consts T → Q r.2.funcs r.2.consts (T ++ dS s)
    | .expr e, base, st, r, T, hs, h, hi => evolve_E hQ e base st r T hs h hi
    | .ret e, base, st, r, T, hs, h, hi => by
      simp only [compileStmt, bind_ok_eq, pure, Except.pure] at h
      obtain ⟨⟨c, st1⟩, h1, h2⟩ := h
      cases h2
      simpa [dS] using hQ.val e base st (c, st1) T (pureS_ret e ▸ hs) h1 hi
  theorem evolve_Ss (hQ : Survives Q) : ∀ (ss : List Stmt) (base : Nat) (st : CState) (r : List Instr × CState) (T : FnTable),
      pureSs ss = true → compileStmts ss base st = .ok r → Q st.funcs st.consts T → Q r.2.funcs r.2.consts (T ++ dSs ss)
    | [], base, st, r, T, _, h, hi => by
      simp only [compileStmts, pure, Except.pure] at h; cases h; simpa [dSs] using hi
    | s :: rest, base, st, r, T, hs, h, hi => by
      by_cases hpair : IsPair s rest
      · -- matched, not substituted: the recursion on the tail of the pair stays structural
        match s, rest, hpair with
        | _, _, ⟨e, n, op, rest', rfl, rfl⟩ =>
          simp only [pureSs, Bool.and_eq_true] at hs
          simp only [compileStmts, compileStmt, bind_ok_eq, pure, Except.pure] at h
          obtain ⟨⟨c, st1⟩, h1, ⟨cs, st2⟩, ⟨⟨ci, sti⟩, hci, ⟨cr, str⟩, hr, hcs⟩, h3⟩ := h
          cases h3; cases hcs; cases compile_postfix hs.1.1 hci
          have i1 := hQ.val e base st (c, st1) T hs.1.2 h1 hi
          have i3 := evolve_Ss hQ rest' _ _ (cr, str) T hs.2 hr (hQ.withConst st1 (if op == ['+', '+'] then .inc else .dec) (.str n) T i1)
          simpa [dSs, dS, dE, dE_pure e hs.1.2] using i3
      · rw [pureSs_other s rest hpair, Bool.and_eq_true] at hs
        simp only [compileStmts, bind_ok_eq, pure, Except.pure] at h
        obtain ⟨⟨c, st1⟩, h1, ⟨cs, st2⟩, h2, h3⟩ := h
        cases h3
        have i1 := evolve_S hQ s base st (c, st1) T hs.1 h1 hi
        have i2 := evolve_Ss hQ rest _ _ (cs, st2) _ hs.2 h2 i1
        simpa [dSs, List.append_assoc] using i2
  theorem evolve_Arms (hQ : Survives Q) (cv : Nat → CState → CM (List Instr × CState)) (vsize : Nat)
      (hcv : ∀ b s r T, cv b s = .ok r → Q s.funcs s.consts T → Q r.2.funcs r.2.consts T) :
      ∀ (cs : List Case) (base endPos : Nat) (st : CState) (r : List Instr × CState) (T : FnTable), pureCases cs = true →
      compileArms cv vsize cs base endPos st = .ok r → Q st.funcs st.consts T → Q r.2.funcs r.2.consts (T ++ dArms cs)
    | [], _, _, st, r, T, _, h, hi => by
      simp only [compileArms, pure, Except.pure] at h; cases h; simpa [dArms] using hi
    | .mk isDef es b :: rest, base, endPos, st, r, T, hs, h, hi => by
      simp only [pureCases, Bool.and_eq_true] at hs
      simp only [compileArms] at h
      split at h
      · rename_i hd
        simpa [dArms, hd] using evolve_Arms hQ cv vsize hcv rest base endPos st r T hs.2 h hi
      · rename_i hd
        simp only [bind_ok_eq, pure, Except.pure] at h
        obtain ⟨⟨c, st1⟩, h1, ⟨cr, st2⟩, h2, h3⟩ := h
        cases h3
        have i1 := evolve_Arm hQ cv vsize hcv (fun bs s => compileStmts b bs s) (Stmt.sizes b) (dSs b)
          (fun bs s r T hr hi => evolve_Ss hQ b bs s r T hs.1.2 hr hi) es _ _ _ (c, st1) T hs.1.1 h1 hi
        have i2 := evolve_Arms hQ cv vsize hcv rest _ _ _ (cr, st2) _ hs.2 h2 i1
        simpa [dArms, hd, List.append_assoc] using i2
  theorem evolve_Arm (hQ : Survives Q) (cv : Nat → CState → CM (List Instr × CState)) (vsize : Nat)
      (hcv : ∀ b s r T, cv b s = .ok r → Q s.funcs s.consts T → Q r.2.funcs r.2.consts T)
      (cblock : Nat → CState → CM (List Instr × CState)) (bsize : Nat) (D : FnTable)
      (hcb : ∀ b s r T, cblock b s = .ok r → Q s.funcs s.consts T → Q r.2.funcs r.2.consts (T ++ D)) :
      ∀ (es : List Expr) (base endPos : Nat) (st : CState) (r : List Instr × CState) (T : FnTable), pureEs es = true →
      compileArm cv vsize cblock bsize es base endPos st = .ok r → Q st.funcs st.consts T →
      Q r.2.funcs r.2.consts (T ++ (List.replicate es.length D).flatten)
    | [], _, _, st, r, T, _, h, hi => by
      simp only [compileArm, pure, Except.pure] at h; cases h; simpa using hi
    | e :: rest, base, endPos, st, r, T, hs, h, hi => by
      simp only [pureEs, Bool.and_eq_true] at hs
      simp only [compileArm, bind_ok_eq, pure, Except.pure] at h
      obtain ⟨⟨cv', st1⟩, h1, ⟨ce, st2⟩, h2, ⟨cb, st3⟩, h3, ⟨cr, st4⟩, h4, h5⟩ := h
      cases h5
      have i1 := hcv _ _ (cv', st1) T h1 hi
      have i2 := hQ.val e _ _ (ce, st2) T hs.1 h2 i1
      have i3 := hcb _ _ (cb, st3) T h3 i2
      have i4 := evolve_Arm hQ cv vsize hcv cblock bsize D hcb rest _ _ _ (cr, st4) _ hs.2 h4 i3
      simpa [List.replicate_succ, List.append_assoc] using i4
  theorem evolve_Defaults (hQ : Survives Q) : ∀ (cs : List Case) (base : Nat) (st : CState) (r : List Instr × CState) (T : FnTable),
      pureCases cs = true → compileDefaults cs base st = .ok r → Q st.funcs st.consts T →
      Q r.2.funcs r.2.consts (T ++ dDefaults cs)
    | [], _, st, r, T, _, h, hi => by
      simp only [compileDefaults, pure, Except.pure] at h; cases h; simpa [dDefaults] using hi
    | .mk isDef es b :: rest, base, st, r, T, hs, h, hi => by
      simp only [pureCases, Bool.and_eq_true] at hs
      simp only [compileDefaults] at h
      split at h
      · rename_i hd
        simp only [bind_ok_eq, pure, Except.pure] at h
        obtain ⟨⟨c, st1⟩, h1, ⟨cr, st2⟩, h2, h3⟩ := h
        cases h3
        have i1 := evolve_Ss hQ b _ _ (c, st1) T hs.1.2 h1 hi
        have i2 := evolve_Defaults hQ rest _ _ (cr, st2) _ hs.2 h2 i1
        simpa [dDefaults, hd, List.append_assoc] using i2
      · rename_i hd
        simpa [dDefaults, hd] using evolve_Defaults hQ rest base st r T hs.2 h hi
end
end

/-- "nothing has been defined, and the table is `fs`": the instance of `Survives` behind the two lemmas below (a
    `switch` without definitions inside leaves the table alone); the end-to-end theorems use `Inv.survives` -/
theorem survives_unchanged (fs : List FnDef) : Survives (fun fs' _ T => T = [] → fs' = fs) :=
  ⟨fun _ h => h, fun _ _ _ _ _ _ _ _ h => absurd h (by simp)⟩

theorem ndArms_funcs (cv : Nat → CState → CM (List Instr × CState)) (vsize : Nat)
    (hcv : ∀ b s r, cv b s = .ok r → r.2.funcs = s.funcs) :
    ∀ (cs : List Case) (base endPos : Nat) (st : CState) (r : List Instr × CState), pureCases cs = true → ndCases cs = true →
    compileArms cv vsize cs base endPos st = .ok r → r.2.funcs = st.funcs :=
  fun cs base endPos st r hs hn h =>
    evolve_Arms (survives_unchanged st.funcs) cv vsize (fun b s r T hr hq hT => (hcv b s r hr).trans (hq hT))
      cs base endPos st r [] hs h (fun _ => rfl) (by simp [(nd_dCases cs hn).1])

theorem ndDefaults_funcs : ∀ (cs : List Case) (base : Nat) (st : CState) (r : List Instr × CState), pureCases cs = true → ndCases cs = true →
    compileDefaults cs base st = .ok r → r.2.funcs = st.funcs :=
  fun cs base st r hs hn h =>
    evolve_Defaults (survives_unchanged st.funcs) cs base st r [] hs h (fun _ => rfl) (by simp [(nd_dCases cs hn).2])

end EvalFilter.Exec
