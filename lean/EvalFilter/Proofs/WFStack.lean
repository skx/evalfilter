/-
  Soundness of the stack-depth certificate with respect to the VM model.  One instruction: with the certified
  depth on the stack it does not underflow and leaves what its successors are certified for - provided no
  call returns the value-less result (the proviso of property C18).  Whole runs: the invariant "the
  instruction pointer is on a certified instruction start and the stack is at least as deep as the
  certificate says" is kept by the VM loop, through nested calls.
-/
import EvalFilter.Proofs.WFCheck

namespace EvalFilter.WF
open EvalFilter.VM

def StackStep (i : Instr) (next : Nat) (a : Bool) (d : Nat) : StepOut → Prop
  | .halt r _ => r ≠ err "underflow"
  | .cont ip' stack' _ => ∃ t x, (t, x) ∈ succs i next a (d - pops i + pushes i) ∧ ip' = t ∧
      Depth (i.op == .iterationNext) x stack'

theorem step_stack (M : Machine) (obj : HostVal) (codeLen : Nat) (runBody : Bytes → RunSt → Res × RunSt)
    (i : Instr) (next : Nat) (stack : List Value) (st : RunSt) (a : Bool) (d : Nat)
    (ha : a = true → i.op = .jumpIfFalse) (hd : Depth a d stack) (hp : pops i ≤ d)
    (hr : ReturnsValues M runBody)
    (hrunU : ∀ uf, uf ∈ M.funcs → ∀ s, (runBody uf.code s).1 ≠ err "underflow") :
    StackStep i next a d (step M obj codeLen runBody i.op.toNat i.arg next stack st) := by
  rcases hd with hd | ⟨rfl, htop, hd⟩
  · -- `d` values are there: what `step_sound` says of the stack as it is holds of the first `d` of it
    have h := step_sound M obj codeLen runBody i next stack st a
    revert h
    generalize step M obj codeLen runBody i.op.toNat i.arg next stack st = out
    intro h
    cases out with
    | halt r st' =>
      rcases h with ⟨uf, s, hm, rfl⟩ | ⟨-, h, -⟩
      · exact hrunU uf hm s
      · intro hu; have := h hu; omega
    | cont ip' stack' st' =>
      obtain ⟨-, x, hs, hx⟩ := h
      obtain ⟨y, hy, hyx⟩ := succs_mono (show d - pops i + pushes i ≤ stack.length - pops i + pushes i by omega) hs
      exact ⟨ip', y, hy, rfl, Depth_mono (hx hr) hyx⟩
  · -- one value short, `false` on top: the instruction is the conditional jump, and it jumps
    have hop := ha rfl
    obtain ⟨rest, rfl⟩ : ∃ rest, stack = .bool false :: rest := by
      cases stack <;> simp_all
    unfold step
    simp only [Op.ofNat_toNat, hop, isBinary, Value.truthy, Bool.false_eq_true, ↓reduceIte]
    split
    · simp [StackStep, err]
    · simp only [pops, hop, List.length_cons] at hp hd
      refine ⟨_, d - pops i + pushes i - 1, by simp [succs, hop], rfl, .inl ?_⟩
      simp only [pops, pushes, hop]
      omega

theorem Depth_flag {d : Nat} {s : List Value} (b : Bool) (h : Depth false d s) : Depth b d s := by
  rcases h with h | ⟨h1, _, _⟩
  · left; exact h
  · cases h1

theorem instrCert_edges {cert : Cert} {len : Nat} {a : Bool} {o : Nat} {i : Instr} {d : Nat}
    (hc : cert.get o = some d) (h : instrCert cert len a o i = none) :
    pops i ≤ d ∧ ∀ t x, (t, x) ∈ succs i (o + i.size) a (d - pops i + pushes i) → t ≥ len ∨ ∃ c, cert.get t = some c ∧ c ≤ x := by
  unfold instrCert at h
  rw [hc] at h
  simp only at h
  split at h
  · cases h
  · rename_i hp
    refine ⟨by omega, ?_⟩
    intro t x hm
    split at h
    · cases h
    · rename_i hfind
      have := List.find?_eq_none.mp hfind (t, x) hm
      simp only at this
      by_cases hge : t ≥ len
      · left; exact hge
      · right
        simp only [hge, ↓reduceIte] at this
        cases hg : cert.get t with
        | none => simp [hg] at this
        | some c => exact ⟨c, rfl, by simpa [hg] using this⟩

/-- the invariant of `loop_stack`: at or past the end, or on a certified instruction start with the certified
    depth.  `≥`, where `loop_static` has `=`: `instrCert` lets every edge to `t ≥ codeLen` pass, as `loop` ends
    there. -/
def Inv (code : Bytes) (instrs : List (Nat × Instr)) (cert : Cert) (ip : Nat) (stack : List Value) : Prop :=
  ip ≥ code.length ∨ ∃ pre i rest d, instrs = pre ++ (ip, i) :: rest ∧ cert.get ip = some d ∧ Depth (lastIter pre) d stack

def BodiesOk (M : Machine) : Prop :=
  ∀ uf, uf ∈ M.funcs → ∃ instrs cert, StaticOk M.consts.length uf.code instrs ∧ StackOk uf.code instrs cert

/-- the proviso of the property ("given that called functions return a value") in a strong form: no function
    of the table can return the value-less result (`NoVoidFns`), and no run of a function body does -/
def CallsReturnValues (M : Machine) (obj : HostVal) : Prop :=
  NoVoidFns M ∧ ∀ fuel uf s v, uf ∈ M.funcs → (loop M obj uf.code fuel 0 [] s).1 = .ok v → v.isType .VOID = false

theorem Inv_start {code : Bytes} {instrs : List (Nat × Instr)} {cert : Cert} {n : Nat}
    (hs : StaticOk n code instrs) (hk : StackOk code instrs cert) : Inv code instrs cert 0 [] := by
  rcases decode_first hs.decoded with ⟨rfl, -⟩ | ⟨i, l, rfl⟩
  · exact .inl (Nat.le_refl _)
  · exact .inr ⟨[], i, l, 0, rfl, hk.start (by simp), .inl (Nat.zero_le _)⟩

/-- **Stack soundness.**  In a machine all of whose function bodies are verified and whose calls
    return values, running any verified body from a certified configuration never ends in a stack
    underflow - at any call depth. -/
theorem loop_stack (M : Machine) (obj : HostVal) (hb : BodiesOk M) (hcv : CallsReturnValues M obj) :
    ∀ (fuel : Nat) (code : Bytes) (instrs : List (Nat × Instr)) (cert : Cert),
      StaticOk M.consts.length code instrs → StackOk code instrs cert →
      ∀ (ip : Nat) (stack : List Value) (st : RunSt), Inv code instrs cert ip stack →
        (loop M obj code fuel ip stack st).1 ≠ err "underflow" := by
  intro fuel
  induction fuel with
  | zero => intro code instrs cert _ _ ip stack st _; simp [loop, err]
  | succ n ih =>
    intro code instrs cert hs hk ip stack st hinv
    rcases hinv with hge | ⟨pre, i, rest, d, hsplit, hcert, hdep⟩
    · simp [loop, hge, err]
    obtain ⟨hf, hnext⟩ := decode_at pre 0 code (hsplit ▸ hs.decoded) [] [] rfl
    unfold Instr.size at hnext
    rw [loop_fetch M obj (by simpa using hf)]
    split
    · simp [err]
    obtain ⟨hat1, hat2⟩ := hk.at_ pre ip i rest hsplit
    obtain ⟨hpops, hedges⟩ := instrCert_edges hcert hat1
    have hst := step_stack M obj code.length (fun c s => loop M obj c n 0 [] s) i (ip + i.op.length) stack
      { st with polls := st.polls + 1 } (lastIter pre) d hat2 hdep hpops
      ⟨hcv.1, fun v ⟨uf, s, huf, h⟩ => hcv.2 n uf s v huf h.symm⟩
      (fun uf huf s => by
        obtain ⟨fi, fc, hfi, hfk⟩ := hb uf huf
        exact ih uf.code fi fc hfi hfk 0 [] s (Inv_start hfi hfk))
    split
    · rename_i ip' stack' st' heq
      rw [heq] at hst
      obtain ⟨t, x, hm, rfl, hdx⟩ := hst
      apply ih code instrs cert hs hk
      rcases hedges ip' x hm with hge | ⟨c, hc, hcx⟩
      · exact .inl hge
      rcases succs_target hm with rfl | ⟨hj, rfl⟩
      · -- falls through to the next instruction of the list
        rcases hnext with ⟨-, hend⟩ | ⟨qj, r, rfl⟩
        · exact .inl (by omega)
        · exact .inr ⟨pre ++ [(ip, i)], qj, r, c, by rw [hsplit]; simp, hc,
            by rw [lastIter_snoc]; exact Depth_mono hdx hcx⟩
      · -- a jump: the target is a decoded instruction; the flag there does not matter
        obtain ⟨j, hj'⟩ := hs.jumps ip i (by simp [hsplit]) hj
        obtain ⟨pre', rest', hsp⟩ := List.append_of_mem hj'
        have hfalse : (i.op == Op.iterationNext) = false := by rcases hj with h | h <;> simp [h]
        rw [hfalse] at hdx
        exact .inr ⟨pre', j, rest', c, hsp, hc, Depth_flag _ (Depth_mono hdx hcx)⟩
    · rename_i r st' heq
      rw [heq] at hst
      exact hst

end EvalFilter.WF
