/-
  The values the maths pass of the optimizer writes are the values the VM computes.
-/
import EvalFilter.Model.VM
import EvalFilter.Model.OptCheck

namespace EvalFilter.OptFold
open EvalFilter.VM

variable (M : Machine)

/-- what OpPush leaves on the stack for an operand `n` -/
def pushed (n : Nat) : Value := .int (Int64.ofNat n)

theorem fold_add (a b : Nat) : binop M .add (pushed b) (pushed a) = .ok (pushed (a + b), []) := by
  unfold pushed; rw [Int64.ofNat_add, Int64.add_comm]; rfl

theorem fold_mul (a b : Nat) : binop M .mul (pushed b) (pushed a) = .ok (pushed (a * b), []) := by
  unfold pushed; rw [Int64.ofNat_mul, Int64.mul_comm]; rfl

theorem fold_sub (a b : Nat) (h : a ≤ b) : binop M .sub (pushed b) (pushed a) = .ok (pushed (b - a), []) := by
  unfold pushed; rw [Int64.ofNat_sub b a h]; rfl

/-- 65536: the operands of OpPush are 16 bits wide (any bound below 2^63 would do) -/
theorem ofNat_inj_small {a b : Nat} (ha : a < 65536) (hb : b < 65536) (h : Int64.ofNat a = Int64.ofNat b) : a = b := by
  have := congrArg Int64.toInt h
  rw [Int64.toInt_ofNat_of_lt (by omega), Int64.toInt_ofNat_of_lt (by omega)] at this
  omega

theorem fold_div (a b : Nat) (ha : a ≠ 0) (ha' : a < 65536) (hb : b < 65536) :
    binop M .div (pushed b) (pushed a) = .ok (pushed (b / a), []) := by
  have hne : (Int64.ofNat a == 0) = false := beq_false_of_ne fun h => ha (ofNat_inj_small ha' (by omega) h)
  unfold pushed; rw [Int64.ofNat_div (a := b) (b := a) (by omega) (by omega)]
  simp [binop, intOp, hne, Except.map]

theorem fold_equal (a b : Nat) (ha : a < 65536) (hb : b < 65536) :
    binop M .equal (pushed b) (pushed a) = .ok (.bool (a == b), []) ∧
    binop M .notEqual (pushed b) (pushed a) = .ok (.bool (a != b), []) := by
  have e : (Int64.ofNat b == Int64.ofNat a) = (a == b) :=
    Bool.eq_iff_iff.2 (by simpa using ⟨fun h => (ofNat_inj_small hb ha h).symm, fun h => h ▸ rfl⟩)
  unfold pushed
  exact ⟨by rw [← e]; rfl, by rw [bne, ← e]; rfl⟩

theorem foldResult_sound (o : Op) (a b r : Nat) (h : OptCheck.foldResult o a b = some r) (ha : a < 65536) (hb : b < 65536) :
    isBinary o = true ∧ binop M o (pushed b) (pushed a) = .ok (pushed r, []) := by
  unfold OptCheck.foldResult at h
  cases o <;> simp at h
  · subst h; exact ⟨rfl, fold_add M a b⟩
  · obtain ⟨h1, rfl⟩ := h; exact ⟨rfl, fold_sub M a b h1⟩
  · subst h; exact ⟨rfl, fold_mul M a b⟩
  · obtain ⟨h1, rfl⟩ := h; exact ⟨rfl, fold_div M a b h1 ha hb⟩

end EvalFilter.OptFold
