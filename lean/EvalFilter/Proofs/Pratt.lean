/-
  The Pratt parser reads back what the printer prints.  The invariant (`Reads`): parsing a text below its level
  is the same as continuing the infix loop with the tree already built as the left operand.  `Shows` bundles it
  with the side facts its uses need and is closed under the grammar (`Shows.atom`, `.paren`, `.pre`, `.node`,
  `.idx`, `.call`, `.arr`): operands of lower level stand in parentheses, and parentheses may stand around
  anything; `T.pr` prints what the grammar asks for (`T.shows`).
-/
import EvalFilter.Model.Parser

namespace EvalFilter.Parser

/-- binary operator tokens of expressions; the `.` of the field-access hack is not one -/
def Bin (o : Token) : Prop := infixFn o.ty = some .binary ∧ o.lit ≠ ['.']

/-- what the infix loop asks of a token before it hands it to the binary parselet -/
theorem infixFn_binary {t : TokType} (h : infixFn t = some .binary) :
    LOWEST < precedence t ∧ (t == TokType.SEMICOLON) = false := by
  cases t <;> first | exact ⟨by decide, rfl⟩ | cases h

/-- what `parseExpression` does with the result of its infix loop: undo the nesting count -/
def unwind (x : Option (Expr × PState)) : Option (Expr × PState) :=
  match x with
  | none => none
  | some (e, s) => some (e, { s with depth := s.depth - 1 })

/-- a token that in operand position is the complete operand `e`: it becomes the left operand of the infix
    loop (`parseExpression` and the parselet take one unit of fuel each) -/
def Atom (tok : Token) (e : Expr) : Prop :=
  ∀ (f p : Nat) (rest : List Token) (prev : Token) (tn fn : Bool) (d : Nat), d + 1 ≤ maxNesting →
    parseExpression (f + 2) p ⟨tok :: rest, prev, tn, fn, d⟩ =
      unwind (infixLoop (f + 1) p e ⟨tok :: rest, prev, tn, fn, d + 1⟩)

def Pre (o : Token) : Prop := prefixFn o.ty = some .prefixOp

mutual
  inductive T
    | leaf (tok : Token) (e : Expr)
    | pre (o : Token) (r : T)
    | node (o : Token) (l r : T)
    | idx (l i : T)
    | call (fn : T) (args : TL)
    | arr (els : TL)
  inductive TL
    | nil
    | cons (t : T) (rest : TL)
end

mutual
  def T.wf : T → Prop
    | .leaf tok e => Atom tok e
    | .pre o r => Pre o ∧ r.wf
    | .node o l r => Bin o ∧ l.wf ∧ r.wf
    | .idx l i => l.wf ∧ i.wf
    | .call fn args => fn.wf ∧ args.wf
    | .arr els => els.wf
  def TL.wf : TL → Prop
    | .nil => True
    | .cons t rest => t.wf ∧ rest.wf
end

/-- the precedence of the root operator; atoms bind tightest (100: any number above INDEX would do) -/
def T.lvl : T → Nat
  | .leaf _ _ => 100
  | .pre _ _ => PREFIX
  | .node o _ _ => precedence o.ty
  | .idx _ _ => INDEX
  | .call _ _ => CALL
  | .arr _ => 100

/-- the level below which the tree can stand as an operand without parentheses: a prefix operator
    is taken whatever the level -/
def T.plvl : T → Nat
  | .leaf _ _ => 100
  | .pre _ _ => 100
  | .node o _ _ => precedence o.ty
  | .idx _ _ => INDEX
  | .call _ _ => CALL
  | .arr _ => 100

mutual
  def T.toExpr : T → Expr
    | .leaf _ e => e
    | .pre o r => .prefix o.lit r.toExpr
    | .node o l r => .infix o.lit l.toExpr r.toExpr
    | .idx l i => .index l.toExpr i.toExpr
    | .call fn args => .call fn.toExpr args.toExprs
    | .arr els => .arrayLit els.toExprs
  def TL.toExprs : TL → List Expr
    | .nil => []
    | .cons t rest => t.toExpr :: rest.toExprs
end

def commaT : Token := ⟨.COMMA, [',']⟩

def lsT : Token := ⟨.LSQUARE, ['[']⟩
def rsT : Token := ⟨.RSQUARE, [']']⟩
def lpT : Token := ⟨.LPAREN, ['(']⟩
def rpT : Token := ⟨.RPAREN, [')']⟩

def parenIf (b : Bool) (ts : List Token) : List Token := if b then lpT :: ts ++ [rpT] else ts

mutual
  /-- print with parentheses around a left operand of lower level, a right operand of lower or equal level (operators
      group left to right), the operand of a prefix operator and an indexed or called operand of lower level; of these
      only the pair around a call that is then indexed is not necessary (`CALL < INDEX`) -/
  def T.pr : T → List Token
    | .leaf tok _ => [tok]
    | .pre o r => [o] ++ parenIf (r.lvl < PREFIX) r.pr
    | .node o l r => parenIf (l.lvl < precedence o.ty) l.pr ++ [o] ++ parenIf (r.lvl ≤ precedence o.ty) r.pr
    | .idx l i => parenIf (l.lvl < INDEX) l.pr ++ [lsT] ++ i.pr ++ [rsT]
    | .call fn args => parenIf (fn.lvl < CALL) fn.pr ++ [lpT] ++ args.pr ++ [rpT]
    | .arr els => [lsT] ++ els.pr ++ [rsT]
  def TL.pr : TL → List Token
    | .nil => []
    | .cons t rest => t.pr ++ rest.prRest
  /-- `, t1, t2 …` -/
  def TL.prRest : TL → List Token
    | .nil => []
    | .cons t rest => [commaT] ++ t.pr ++ rest.prRest
end

theorem PState.next_cons (c : Token) (rest : List Token) (prev : Token) (tn fn : Bool) (d : Nat) :
    PState.next ⟨c :: rest, prev, tn, fn, d⟩ = ⟨rest, c, tn, fn, d⟩ := rfl

theorem PState.cur_cons (c : Token) (rest : List Token) (prev : Token) (tn fn : Bool) (d : Nat) :
    PState.cur ⟨c :: rest, prev, tn, fn, d⟩ = c := rfl

theorem prefixFn_not_postfix {t : TokType} {pf : PrefixFn} (h : prefixFn t = some pf) : isPostfix t = false := by
  cases t <;> first | rfl | cases h

theorem parseExpression_succ (f p : Nat) (c : Token) (rest : List Token) (prev : Token) (tn fn : Bool) (d : Nat)
    (pf : PrefixFn) (hpf : prefixFn c.ty = some pf) (hd : d + 1 ≤ maxNesting) :
    parseExpression (f + 1) p ⟨c :: rest, prev, tn, fn, d⟩ =
      match parsePrefix f pf ⟨c :: rest, prev, tn, fn, d + 1⟩ with
      | none => none
      | some (left, s) => unwind (infixLoop f p left s) := by
  simp only [parseExpression, PState.cur, List.headD_cons, Nat.not_lt.mpr hd, prefixFn_not_postfix hpf, hpf, ↓reduceIte,
    Bool.false_eq_true]
  cases parsePrefix f pf ⟨c :: rest, prev, tn, fn, d + 1⟩ with
  | none => rfl
  | some r => cases infixLoop f p r.1 r.2 <;> rfl

theorem parsePrefix_prefixOp (f : Nat) (s : PState) :
    parsePrefix (f + 1) .prefixOp s =
      match parseExpression f PREFIX s.next with
      | none => none
      | some (r, s') => some (.prefix s.cur.lit r, s') := rfl

theorem parsePrefix_grouped (f : Nat) (s : PState) :
    parsePrefix (f + 1) .grouped s =
      match parseExpression f LOWEST s.next with
      | none => none
      | some (e, s') => (s'.expectPeek .RPAREN).map (fun s'' => (e, s'')) := rfl

theorem parsePrefix_arrayLit (f : Nat) (s : PState) :
    parsePrefix (f + 1) .arrayLit s =
      match parseExprList f .RSQUARE s with
      | none => none
      | some (els, s') => some (.arrayLit els, s') := rfl

theorem infixLoop_succ (f p : Nat) (left : Expr) (c o : Token) (rest : List Token) (prev : Token) (tn fn : Bool) (d : Nat)
    (fi : InfixFn) (hfi : infixFn o.ty = some fi) (hsemi : (o.ty == .SEMICOLON) = false) (hp : p < precedence o.ty) :
    infixLoop (f + 1) p left ⟨c :: o :: rest, prev, tn, fn, d⟩ =
      match parseInfix f fi left ⟨o :: rest, c, tn, fn, d⟩ with
      | none => none
      | some (left', s) => infixLoop f p left' s := by
  simp only [infixLoop, PState.peekIs, PState.peek, PState.next, PState.cur, List.tail_cons, List.headD_cons, hsemi, hp, hfi,
    Bool.not_false, Bool.true_and, decide_true, ↓reduceIte]
  rfl

theorem loop_stop (f p : Nat) (left : Expr) (s : PState) (hf : 0 < f) (h : precedence s.peek.ty ≤ p) :
    infixLoop f p left s = some (left, s) := by
  obtain ⟨f, rfl⟩ : ∃ g, f = g + 1 := ⟨f - 1, by omega⟩
  simp [infixLoop, Nat.not_lt.mpr h]

theorem parseInfix_binary (f : Nat) (left : Expr) (s : PState) :
    parseInfix (f + 1) .binary left s =
      match parseExpression f (precedence s.cur.ty) s.next with
      | none => none
      | some (r, s') =>
        some (.infix s.cur.lit left (if s.cur.lit == ['.'] && !r.str.isEmpty then .strLit r.str else r), s') := rfl

theorem parseInfix_index (f : Nat) (left : Expr) (s : PState) :
    parseInfix (f + 1) .index left s =
      match parseExpression f LOWEST s.next with
      | none => none
      | some (i, s') => (s'.expectPeek .RSQUARE).map (fun s'' => (.index left i, s'')) := rfl

theorem parseInfix_call (f : Nat) (left : Expr) (s : PState) :
    parseInfix (f + 1) .call left s =
      match parseExprList f .RPAREN s with
      | none => none
      | some (args, s') => some (.call left args, s') := rfl

theorem Atom.of_parselet {tok : Token} {e : Expr} (pf : PrefixFn) (hpf : prefixFn tok.ty = some pf)
    (h : ∀ (f : Nat) (s : PState), s.cur = tok → parsePrefix (f + 1) pf s = some (e, s)) : Atom tok e := by
  intro f p rest prev tn fn d hd
  rw [parseExpression_succ (f + 1) p tok rest prev tn fn d pf hpf hd, h f _ rfl]

theorem atom_ident (n : Str) : Atom ⟨.IDENT, n⟩ (.ident n) :=
  .of_parselet .ident rfl fun f s h => by simp [parsePrefix, h]

theorem atom_string (v : Str) : Atom ⟨.STRING, v⟩ (.strLit v) :=
  .of_parselet .stringLit rfl fun f s h => by simp [parsePrefix, h]

theorem atom_true (l : Str) : Atom ⟨.TRUE, l⟩ (.boolLit true) :=
  .of_parselet .boolLit rfl fun f s h => by simp [parsePrefix, PState.curIs, h]

theorem atom_false (l : Str) : Atom ⟨.FALSE, l⟩ (.boolLit false) :=
  .of_parselet .boolLit rfl fun f s h => by simp [parsePrefix, PState.curIs, h]

theorem atom_int (l : Str) (v : Int64) (h : parseIntLit l = some v) : Atom ⟨.INT, l⟩ (.intLit l v) :=
  .of_parselet .intLit rfl fun f s hs => by simp [parsePrefix, hs, h]

theorem atom_float (l : Str) (v : Float) (h : parseFloatLit l = some v) : Atom ⟨.FLOAT, l⟩ (.floatLit l v) :=
  .of_parselet .floatLit rfl fun f s hs => by simp [parsePrefix, hs, h]

theorem atom_regexp (l : Str) : Atom ⟨.REGEXP, l⟩ (.regexpLit l (splitRegexp l).1 (splitRegexp l).2) :=
  .of_parselet .regexpLit rfl fun f s h => by simp [parsePrefix, h]

theorem atom_prefix {tok : Token} {e : Expr} (h : Atom tok e) : prefixFn tok.ty ≠ none := by
  intro hn
  -- without a prefix parselet the result is `none`, or for a postfix token depends on `prev`: two values of `prev`
  have h1 := h 0 100 [] ⟨.EOF, []⟩ false false 0 (by simp [maxNesting])
  have h2 := h 0 100 [] ⟨.EOF, ['x']⟩ false false 0 (by simp [maxNesting])
  simp [parseExpression, PState.cur, hn, unwind, infixLoop, PState.peekIs, PState.peek, maxNesting, Token.eof,
    precedence, LOWEST] at h1 h2
  have := h1.2.trans h2.2.symm
  simp at this

mutual
  /-- fuel measure: `4 * t.size` units suffice to read `t.pr` (`T.shows`).  The constants are generous - the
      rules spend 2 units per construct and 2 per pair of parentheses - and `t.size ≤ 4 * t.pr.length`
      (`T.size_le_pr`), which keeps the need within the 16 units per token that `parse` supplies (`fuelFor`). -/
  def T.size : T → Nat
    | .leaf _ _ => 1
    | .pre _ r => r.size + 3
    | .node _ l r => l.size + r.size + 3
    | .idx l i => l.size + i.size + 3
    | .call fn args => fn.size + args.size + 3
    | .arr els => els.size + 3
  def TL.size : TL → Nat
    | .nil => 1
    | .cons t rest => t.size + rest.size + 2
end

/-- fuel the infix loop has used up when `t` stands built as its left operand -/
def T.k : T → Nat
  | .leaf _ _ => 1
  | .pre _ _ => 1
  | .node o l _ => (if l.lvl < precedence o.ty then 1 else l.k) + 1
  | .idx l _ => (if l.lvl < INDEX then 1 else l.k) + 1
  | .call fn _ => (if fn.lvl < CALL then 1 else fn.k) + 1
  | .arr _ => 1

mutual
  /-- nesting of `parseExpression` calls needed for `t` -/
  def T.nest : T → Nat
    | .leaf _ _ => 1
    | .pre _ r => r.nest + 1 + (if r.lvl < PREFIX then 1 else 0)
    | .node o l r => max (l.nest + (if l.lvl < precedence o.ty then 1 else 0))
                         (r.nest + 1 + (if r.lvl ≤ precedence o.ty then 1 else 0))
    | .idx l i => max (l.nest + (if l.lvl < INDEX then 1 else 0)) (i.nest + 1)
    | .call fn args => max (fn.nest + (if fn.lvl < CALL then 1 else 0)) (args.nest + 1)
    | .arr els => els.nest + 1
  def TL.nest : TL → Nat
    | .nil => 0
    | .cons t rest => max t.nest rest.nest
end

def headPrec (rest : List Token) : Nat := precedence (rest.headD Token.eof).ty
/-- every parse function stops ON the last token it read: after `ts` the current token is `lastTok ts` -/
def lastTok (ts : List Token) : Token := ts.getLast?.getD Token.eof

theorem lastTok_append (a b : List Token) (hb : b ≠ []) : lastTok (a ++ b) = lastTok b := by
  simp only [lastTok, List.getLast?_append]
  cases h : b.getLast? with
  | none => exact absurd (List.getLast?_eq_none_iff.mp h) hb
  | some x => rfl

theorem precedence_le (t : TokType) : precedence t ≤ 14 := by
  cases t <;> decide

theorem precedence_lt_100 (t : TokType) : precedence t < 100 := Nat.lt_of_le_of_lt (precedence_le t) (by decide)

theorem T.size_le_paren {t : T} (h : t.size ≤ 4 * t.pr.length) (b : Bool) : t.size ≤ 4 * (parenIf b t.pr).length := by
  cases b <;> simp [parenIf] <;> omega

mutual
  theorem T.size_le_pr : ∀ (t : T), t.size ≤ 4 * t.pr.length
    | .leaf tok e => by simp [T.size, T.pr]
    | .pre o r => by
      have := T.size_le_paren (T.size_le_pr r) (r.lvl < PREFIX)
      simp only [T.size, T.pr, List.length_append, List.length_cons, List.length_nil]
      omega
    | .node o l r => by
      have := T.size_le_paren (T.size_le_pr l) (l.lvl < precedence o.ty)
      have := T.size_le_paren (T.size_le_pr r) (r.lvl ≤ precedence o.ty)
      simp only [T.size, T.pr, List.length_append, List.length_cons, List.length_nil]
      omega
    | .idx l i => by
      have := T.size_le_paren (T.size_le_pr l) (l.lvl < INDEX)
      have := T.size_le_pr i
      simp only [T.size, T.pr, List.length_append, List.length_cons, List.length_nil]
      omega
    | .call fn args => by
      have := T.size_le_paren (T.size_le_pr fn) (fn.lvl < CALL)
      have := TL.size_le_pr args
      simp only [T.size, T.pr, List.length_append, List.length_cons, List.length_nil]
      omega
    | .arr els => by
      have := TL.size_le_pr els
      simp only [T.size, T.pr, List.length_append, List.length_cons, List.length_nil]
      omega
  theorem TL.size_le_pr : ∀ (ts : TL), ts.size ≤ 4 * ts.pr.length + 3
    | .nil => by simp [TL.size, TL.pr]
    | .cons t r => by
      have := T.size_le_pr t
      have := TL.size_le_prRest r
      simp only [TL.size, TL.pr, List.length_append]
      omega
  theorem TL.size_le_prRest : ∀ (ts : TL), ts.size ≤ 4 * ts.prRest.length + 1
    | .nil => by simp [TL.size, TL.prRest]
    | .cons t r => by
      have := T.size_le_pr t
      have := TL.size_le_prRest r
      simp only [TL.size, TL.prRest, List.length_append, List.length_cons, List.length_nil]
      omega
end

def retTok : Token := ⟨.RETURN, ['r', 'e', 't', 'u', 'r', 'n']⟩
def semiTok : Token := ⟨.SEMICOLON, [';']⟩

theorem parse_return (toks : List Token) (e : Expr) (c pv : Token)
    (h : parseExpression (fuelFor (retTok :: toks) - 1) LOWEST ⟨toks, retTok, false, false, 0⟩ =
      some (e, ⟨[c, semiTok, Token.eof], pv, false, false, 0⟩)) :
    parse (retTok :: toks) = some [.ret e] := by
  obtain ⟨F, hF⟩ : ∃ F, fuelFor (retTok :: toks) = F + 1 := ⟨_, rfl⟩
  obtain ⟨n, hn⟩ : ∃ n, (retTok :: toks).length + 2 = n + 1 + 1 := ⟨_, rfl⟩
  rw [hF, Nat.add_sub_cancel] at h
  rw [parse, hF, hn]
  simp only [parseProgramLoop, parseStatement, PState.curIs, PState.cur, PState.next, List.headD_cons, List.tail_cons, h]
  rfl

/-- Parsing `ts` from a level `p < plvl`, in front of a token that does not bind tighter than `lvl`, with `n`
    units of fuel and room for `nest` nested `parseExpression` calls, is continuing the infix loop with `e` built
    as left operand, `k` units of loop fuel later, standing on the last token of `ts` (`prev` matters to the
    postfix branch only; what it is afterwards is left open).  `lvl` is the level of the root operator; `plvl`
    differs for a prefix operator only: its parselet is entered whatever `p` is (`plvl = 100`), while an index
    or call behind it would go to its operand (`lvl = PREFIX`). -/
def Reads (ts : List Token) (e : Expr) (lvl plvl k n nest : Nat) : Prop :=
  ∀ (p f : Nat) (rest : List Token) (prev : Token) (tn fn : Bool) (d : Nat),
    p < plvl → headPrec rest ≤ lvl → d + nest ≤ maxNesting → n ≤ f →
    ∃ prev', parseExpression f p ⟨ts ++ rest, prev, tn, fn, d⟩ =
      unwind (infixLoop (f - k) p e ⟨lastTok ts :: rest, prev', tn, fn, d + 1⟩)

/-- `Reads t.pr t.toExpr t.lvl t.plvl t.k (4 * t.size) t.nest` written out, the statement of `L_all` and
    `operand_of_L` (`L`: the infix loop).  Build on `Reads`, `Shows` and `T.shows`. -/
def Lstmt (t : T) : Prop :=
  ∀ (p f : Nat) (rest : List Token) (prev : Token) (tn fn : Bool) (d : Nat),
    p < t.plvl → headPrec rest ≤ t.lvl → d + t.nest ≤ maxNesting → 4 * t.size ≤ f →
    ∃ prev', parseExpression f p ⟨t.pr ++ rest, prev, tn, fn, d⟩ =
      unwind (infixLoop (f - t.k) p t.toExpr ⟨lastTok t.pr :: rest, prev', tn, fn, d + 1⟩)

/-- the statement of `LL_all` (`LL`: `parseExprListLoop`): the rest `, t1, t2 …` of a list, up to the closing
    token -/
def LLstmt (ts : TL) : Prop :=
  ∀ (f : Nat) (endTok c : Token) (rest : List Token) (prev : Token) (tn fn : Bool) (d : Nat) (acc : List Expr),
    (endTok.ty == TokType.COMMA) = false → precedence endTok.ty = LOWEST →
    d + ts.nest ≤ maxNesting → 4 * ts.size ≤ f →
    ∃ prev', parseExprListLoop f endTok.ty ⟨c :: (ts.prRest ++ endTok :: rest), prev, tn, fn, d⟩ acc =
      some (acc ++ ts.toExprs, ⟨endTok :: rest, prev', tn, fn, d⟩)

/-- the statement of `LP_all` (`LP`: `parseExprList`, entered on the opening parenthesis or bracket): a whole
    list; the hypothesis of `Shows.call` and `Shows.arr` about the arguments / elements -/
def LPstmt (ts : TL) : Prop :=
  ∀ (f : Nat) (endTok c : Token) (rest : List Token) (prev : Token) (tn fn : Bool) (d : Nat),
    (endTok.ty == TokType.COMMA) = false → precedence endTok.ty = LOWEST → prefixFn endTok.ty = none →
    d + ts.nest ≤ maxNesting → 4 * ts.size + 4 ≤ f →
    ∃ prev', parseExprList f endTok.ty ⟨c :: (ts.pr ++ endTok :: rest), prev, tn, fn, d⟩ =
      some (ts.toExprs, ⟨endTok :: rest, prev', tn, fn, d⟩)

/-- behind an element stands a comma or the closing token: nothing that a loop takes -/
theorem TL.headPrec_prRest (ts : TL) (endTok : Token) (rest : List Token) (hpe : precedence endTok.ty = LOWEST) :
    headPrec (ts.prRest ++ endTok :: rest) = LOWEST := by
  cases ts with
  | nil => exact hpe
  | cons t r => rfl

/-- the token list `ts` shows the expression `e`; the indices are those of `Reads` -/
structure Shows (ts : List Token) (e : Expr) (lvl plvl k n nest : Nat) : Prop where
  reads : Reads ts e lvl plvl k n nest
  lvl_pos : LOWEST < lvl
  /-- a level from which the root operator is taken is one from which the text is read -/
  lvl_le : lvl ≤ plvl
  /-- the loop that goes on `k` units later still has fuel to stop (`loop_stop`) -/
  k_lt : k < n
  /-- `parse` starts with 16 units of fuel per token (`fuelFor`) -/
  n_le : n ≤ 16 * ts.length
  /-- the first token starts an operand, so it is not the closing token of a list (`LP_all`) -/
  head : ∃ c tl, ts = c :: tl ∧ prefixFn c.ty ≠ none

namespace Shows
variable {ts ls rs : List Token} {e l r : Expr} {lvl plvl k n nest ll lpl kl nl dl rl rpl kr nr dr : Nat}

theorem ne_nil (h : Shows ts e lvl plvl k n nest) : ts ≠ [] := by
  obtain ⟨c, tl, rfl, _⟩ := h.head
  exact List.cons_ne_nil _ _

theorem mono {n' nest' : Nat} (h : Shows ts e lvl plvl k n nest) (hn : n ≤ n') (hn' : n' ≤ 16 * ts.length)
    (hd : nest ≤ nest') : Shows ts e lvl plvl k n' nest' :=
  { h with
    reads := fun p f rest prev tn fn d hp hr hd' hf => h.reads p f rest prev tn fn d hp hr (by omega) (by omega)
    k_lt := Nat.lt_of_lt_of_le h.k_lt hn
    n_le := hn' }

/-- an operand that ends where the loop at its own level `q` stops -/
theorem expr (h : Shows ts e lvl plvl k n nest) (q f : Nat) (rest : List Token) (prev : Token) (tn fn : Bool) (d : Nat)
    (hq : q < plvl) (hq' : q ≤ lvl) (hrest : headPrec rest ≤ q) (hd : d + nest ≤ maxNesting) (hf : n ≤ f) :
    ∃ prev', parseExpression f q ⟨ts ++ rest, prev, tn, fn, d⟩ = some (e, ⟨lastTok ts :: rest, prev', tn, fn, d⟩) := by
  obtain ⟨pv, h'⟩ := h.reads q f rest prev tn fn d hq (Nat.le_trans hrest hq') hd hf
  have := h.k_lt
  exact ⟨pv, by rw [h', loop_stop _ _ _ ⟨lastTok ts :: rest, pv, tn, fn, d + 1⟩ (by omega) hrest]; rfl⟩

theorem whole (h : Shows ts e lvl plvl k n nest) (f : Nat) (rest : List Token) (prev : Token) (tn fn : Bool) (d : Nat)
    (hrest : headPrec rest = LOWEST) (hd : d + nest ≤ maxNesting) (hf : n ≤ f) :
    ∃ prev', parseExpression f LOWEST ⟨ts ++ rest, prev, tn, fn, d⟩ = some (e, ⟨lastTok ts :: rest, prev', tn, fn, d⟩) :=
  h.expr LOWEST f rest prev tn fn d (Nat.lt_of_lt_of_le h.lvl_pos h.lvl_le) (Nat.le_of_lt h.lvl_pos) (Nat.le_of_eq hrest) hd hf

/-- **The parser reads back what it is shown.** -/
theorem round_trip (h : Shows ts e lvl plvl k n nest) (hn : nest ≤ maxNesting) :
    parse (retTok :: ts ++ [semiTok, Token.eof]) = some [.ret e] := by
  have := h.n_le
  obtain ⟨pv, h'⟩ := h.whole (fuelFor (retTok :: (ts ++ [semiTok, Token.eof])) - 1) [semiTok, Token.eof] retTok false false 0
    rfl (by omega) (by simp only [fuelFor, List.length_cons, List.length_append, List.length_nil]; omega)
  exact parse_return _ e _ pv h'

theorem atom {tok : Token} (h : Atom tok e) : Shows [tok] e 100 100 1 2 1 where
  reads := fun p f rest prev tn fn d _ _ hd hf => by
    obtain ⟨f, rfl⟩ := Nat.exists_eq_add_of_le' hf
    exact ⟨prev, h f p rest prev tn fn d hd⟩
  lvl_pos := by decide
  lvl_le := Nat.le_refl _
  k_lt := by decide
  n_le := Nat.le_of_ble_eq_true rfl
  head := ⟨tok, [], rfl, atom_prefix h⟩

/-- A construct that starts in operand position - prefix operator, array literal, parenthesised operand - is
    shown when its prefix parselet, entered at its first token `c` with fuel `m`, returns `e` at the construct's
    last token.  `parseExpression` and the parselet take a unit each (`m + 2`), the loop starts one unit below
    `parseExpression` (`k = 1`), the parselet runs one call deeper (`nest + 1`); `hm` is what `n_le` leaves of
    the 16 units of `c` after these 2. -/
theorem prefix_ (c : Token) (pf : PrefixFn) (toks : List Token) (m : Nat) (hpf : prefixFn c.ty = some pf)
    (hlvl : LOWEST < lvl) (hle : lvl ≤ plvl) (hm : m ≤ 16 * toks.length + 14) (hne : toks ≠ [])
    (hpar : ∀ g rest prev tn fn d, m ≤ g → d + nest ≤ maxNesting → headPrec rest ≤ lvl →
      ∃ pv, parsePrefix (g + 1) pf ⟨c :: (toks ++ rest), prev, tn, fn, d⟩ = some (e, ⟨lastTok toks :: rest, pv, tn, fn, d⟩)) :
    Shows (c :: toks) e lvl plvl 1 (m + 2) (nest + 1) where
  reads := fun p f rest prev tn fn d _ hrest hd hf => by
    obtain ⟨g, rfl⟩ := Nat.exists_eq_add_of_le' (show 2 ≤ f by omega)
    obtain ⟨pv, h⟩ := hpar g rest prev tn fn (d + 1) (by omega) (by omega) hrest
    exact ⟨pv, by rw [List.cons_append, parseExpression_succ (g + 1) p c _ prev tn fn d pf hpf (by omega), h,
      show lastTok (c :: toks) = _ from lastTok_append [c] toks hne]; rfl⟩
  lvl_pos := hlvl
  lvl_le := hle
  k_lt := by omega
  n_le := by simp only [List.length_cons]; omega
  head := ⟨c, toks, rfl, by rw [hpf]; exact Option.some_ne_none _⟩

/-- parentheses make anything an operand of any operator (`pl` is free: the parenthesis parselet does not look
    at the level it is called at) -/
theorem parenAt (h : Shows ts e lvl plvl k n nest) {pl : Nat} (hpl : 100 ≤ pl) :
    Shows (lpT :: ts ++ [rpT]) e 100 pl 1 (n + 2) (nest + 1) := by
  have := h.n_le
  refine prefix_ lpT .grouped (ts ++ [rpT]) n rfl (by decide) hpl
    (by simp only [List.length_append, List.length_cons, List.length_nil]; omega) (by simp) fun g rest prev tn fn d hg hd _ => ?_
  obtain ⟨pv, h'⟩ := h.whole g (rpT :: rest) lpT tn fn d rfl hd hg
  exact ⟨lastTok ts, by
    rw [parsePrefix_grouped, PState.next_cons, List.append_assoc, List.singleton_append, h',
      lastTok_append ts [rpT] (List.cons_ne_nil _ _)]; rfl⟩

theorem paren (h : Shows ts e lvl plvl k n nest) : Shows (lpT :: ts ++ [rpT]) e 100 100 1 (n + 2) (nest + 1) :=
  h.parenAt (Nat.le_refl _)

theorem pre {o : Token} (ho : Pre o)
    (hr : Shows rs r rl rpl kr nr dr) (h1 : PREFIX < rpl := by decide) (h2 : PREFIX ≤ rl := by decide) :
    Shows (o :: rs) (.prefix o.lit r) PREFIX 100 1 (nr + 2) (dr + 1) := by
  have := hr.n_le
  refine prefix_ o .prefixOp rs nr ho (by decide) (by decide) (by omega) hr.ne_nil fun g rest prev tn fn d hg hd hrest => ?_
  obtain ⟨pv, h'⟩ := hr.expr PREFIX g rest o tn fn d h1 h2 hrest hd hg
  exact ⟨pv, by rw [parsePrefix_prefixOp, PState.next_cons, h']; rfl⟩

/-- An infix construct - binary operator, index, call - is shown when its left operand is, at the level of the
    infix token `o` or above, and its parselet, entered at `o` with fuel `m`, returns `e` at the construct's last
    token.  The loop that has the left operand makes one more turn (`kl + 1`), which takes a unit, and one for
    the parselet (`nl + m + 2`); the parselet runs one call deeper, the left operand did not
    (`max dl (nest + 1)`); `hm` as in `prefix_`, for the 16 units of `o`. -/
theorem infix_ (hl : Shows ls l ll lpl kl nl dl) (o : Token) (fi : InfixFn)
    (toks : List Token) (m : Nat) (hfi : infixFn o.ty = some fi) (hsemi : (o.ty == .SEMICOLON) = false)
    (hq : LOWEST < precedence o.ty) (h1 : precedence o.ty ≤ ll) (hm : m ≤ 16 * toks.length + 14) (hne : toks ≠ [])
    (hpar : ∀ g c rest tn fn d, m ≤ g → d + nest ≤ maxNesting → headPrec rest ≤ precedence o.ty →
      ∃ pv, parseInfix (g + 1) fi l ⟨o :: (toks ++ rest), c, tn, fn, d⟩ = some (e, ⟨lastTok toks :: rest, pv, tn, fn, d⟩)) :
    Shows (ls ++ o :: toks) e (precedence o.ty) (precedence o.ty) (kl + 1) (nl + m + 2) (max dl (nest + 1)) where
  reads := fun p f rest prev tn fn d hp hrest hd hf => by
    have := hl.k_lt
    obtain ⟨pv, h⟩ := hl.reads p f (o :: (toks ++ rest)) prev tn fn d (Nat.lt_of_lt_of_le hp (Nat.le_trans h1 hl.lvl_le)) h1
      (by omega) (by omega)
    obtain ⟨g, hg⟩ := Nat.exists_eq_add_of_le' (show 2 ≤ f - kl by omega)
    obtain ⟨pv', h'⟩ := hpar g (lastTok ls) rest tn fn (d + 1) (by omega) (by omega) hrest
    exact ⟨pv', by rw [List.append_assoc, List.cons_append, h, lastTok_append ls (o :: toks) (List.cons_ne_nil _ _),
      show lastTok (o :: toks) = _ from lastTok_append [o] toks hne, Nat.sub_add_eq, hg,
      infixLoop_succ (g + 1) p _ _ o _ pv tn fn (d + 1) fi hfi hsemi hp, h']; rfl⟩
  lvl_pos := hq
  lvl_le := Nat.le_refl _
  k_lt := by have := hl.k_lt; omega
  n_le := by have := hl.n_le; simp only [List.length_cons, List.length_append]; omega
  head := by
    obtain ⟨c, tl, rfl, hc⟩ := hl.head
    exact ⟨c, _, rfl, hc⟩

/-- a binary operator: the left operand at its level or above, the right operand above (operators group left to
    right).  The default proofs of `h1`, `h2` are for atoms and parenthesised operands (level 100); an operand of
    another level needs its own. -/
theorem node {o : Token} (ho : Bin o)
    (hl : Shows ls l ll lpl kl nl dl) (hr : Shows rs r rl rpl kr nr dr)
    (h1 : precedence o.ty ≤ ll := by exact Nat.le_of_lt (precedence_lt_100 _))
    (h2 : precedence o.ty < rl := by exact precedence_lt_100 _) :
    Shows (ls ++ o :: rs) (.infix o.lit l r) (precedence o.ty) (precedence o.ty) (kl + 1) (nl + nr + 2) (max dl (dr + 1)) := by
  have := hr.n_le
  refine hl.infix_ o .binary rs nr ho.1 (infixFn_binary ho.1).2 (infixFn_binary ho.1).1 h1 (by omega) hr.ne_nil
    fun g c rest tn fn d hg hd hrest => ?_
  obtain ⟨pv, h⟩ := hr.expr (precedence o.ty) g rest o tn fn d (Nat.lt_of_lt_of_le h2 hr.lvl_le) (Nat.le_of_lt h2) hrest hd hg
  refine ⟨pv, ?_⟩
  rw [parseInfix_binary, PState.next_cons, PState.cur_cons, h]
  simp only [beq_eq_false_iff_ne.mpr ho.2, Bool.false_and]
  rfl

theorem idx (hl : Shows ls l ll lpl kl nl dl) (hr : Shows rs r rl rpl kr nr dr) (h1 : INDEX ≤ ll) :
    Shows (ls ++ lsT :: (rs ++ [rsT])) (.index l r) INDEX INDEX (kl + 1) (nl + nr + 2) (max dl (dr + 1)) := by
  have := hr.n_le
  refine hl.infix_ lsT .index (rs ++ [rsT]) nr rfl rfl (by decide) h1
    (by simp only [List.length_append, List.length_cons, List.length_nil]; omega) (by simp) fun g c rest tn fn d hg hd _ => ?_
  obtain ⟨pv, h⟩ := hr.whole g (rsT :: rest) lsT tn fn d rfl hd hg
  exact ⟨lastTok rs, by
    rw [parseInfix_index, PState.next_cons, List.append_assoc, List.singleton_append, h,
      lastTok_append rs [rsT] (List.cons_ne_nil _ _)]; rfl⟩

theorem call (hl : Shows ls l ll lpl kl nl dl) (args : TL)
    (ha : LPstmt args) (h1 : CALL ≤ ll) :
    Shows (ls ++ lpT :: (args.pr ++ [rpT])) (.call l args.toExprs) CALL CALL (kl + 1) (nl + (4 * args.size + 4) + 2)
      (max dl (args.nest + 1)) := by
  have := args.size_le_pr
  refine hl.infix_ lpT .call (args.pr ++ [rpT]) _ rfl rfl (by decide) h1
    (by simp only [List.length_append, List.length_cons, List.length_nil]; omega) (by simp) fun g c rest tn fn d hg hd _ => ?_
  obtain ⟨pv, h⟩ := ha g rpT lpT rest c tn fn d rfl rfl rfl hd hg
  exact ⟨pv, by
    rw [parseInfix_call, List.append_assoc, List.singleton_append, show parseExprList _ .RPAREN _ = _ from h,
      lastTok_append args.pr [rpT] (List.cons_ne_nil _ _)]; rfl⟩

theorem arr (els : TL) (ha : LPstmt els) :
    Shows (lsT :: (els.pr ++ [rsT])) (.arrayLit els.toExprs) 100 100 1 (4 * els.size + 4 + 2) (els.nest + 1) := by
  have := els.size_le_pr
  refine prefix_ lsT .arrayLit (els.pr ++ [rsT]) _ rfl (by decide) (Nat.le_refl _)
    (by simp only [List.length_append, List.length_cons, List.length_nil]; omega) (by simp) fun g rest prev tn fn d hg hd _ => ?_
  obtain ⟨pv, h⟩ := ha g rsT lsT rest prev tn fn d rfl rfl rfl hd hg
  exact ⟨pv, by
    rw [parsePrefix_arrayLit, List.append_assoc, List.singleton_append, show parseExprList _ .RSQUARE _ = _ from h,
      lastTok_append els.pr [rsT] (List.cons_ne_nil _ _)]; rfl⟩

/-- an operand as `T.pr` prints it, in parentheses or not -/
theorem parenIf (h : Shows ts e lvl plvl k n nest) (b : Prop) [Decidable b] :
    Shows (parenIf b ts) e (if b then 100 else lvl) (if b then 100 else plvl) (if b then 1 else k)
      (n + if b then 2 else 0) (nest + if b then 1 else 0) := by
  by_cases hb : b
  · simpa [Parser.parenIf, hb] using h.paren
  · simpa [Parser.parenIf, hb] using h

end Shows

/-- the level `Shows.parenIf` gives an operand of level `l` that `T.pr` wraps when it is below `q` (not above `q`) -/
theorem le_lvl_parenIf (q l : Nat) (hq : q < 100) : q ≤ if l < q then 100 else l := by split <;> omega
theorem lt_lvl_parenIf (q l : Nat) (hq : q < 100) : q < if l ≤ q then 100 else l := by split <;> omega

/-- no operator has the prefix level: what stands unparenthesised behind a prefix operator is taken whole -/
theorem T.prefix_lt_plvl (t : T) (h : PREFIX ≤ t.lvl) : PREFIX < t.plvl := by
  cases t with
  | node o l r =>
    have : precedence o.ty ≠ PREFIX := by cases o.ty <;> decide
    exact Nat.lt_of_le_of_ne h this.symm
  | _ => simp [T.plvl, PREFIX, INDEX, CALL]

mutual
  theorem T.shows : ∀ (t : T), t.wf → Shows t.pr t.toExpr t.lvl t.plvl t.k (4 * t.size) t.nest
    | .leaf tok e, h => (Shows.atom h).mono (Nat.le_of_ble_eq_true rfl) (Nat.le_of_ble_eq_true rfl) (Nat.le_refl _)
    | .pre o r, ⟨ho, hwr⟩ => by
      have hs := T.size_le_pr (.pre o r)
      have hp : PREFIX < if r.lvl < PREFIX then 100 else r.plvl := by
        split
        · decide
        · exact r.prefix_lt_plvl (Nat.not_lt.mp ‹_›)
      have h := Shows.pre ho ((T.shows r hwr).parenIf (r.lvl < PREFIX)) hp (le_lvl_parenIf PREFIX r.lvl (by decide))
      simp only [T.pr, T.k, T.toExpr, T.nest, T.size, List.cons_append, List.nil_append] at hs ⊢
      exact h.mono (by split <;> omega) (by omega) (by omega)
    | .node o l r, ⟨ho, hwl, hwr⟩ => by
      have hs := T.size_le_pr (.node o l r)
      have h := Shows.node ho ((T.shows l hwl).parenIf (l.lvl < precedence o.ty)) ((T.shows r hwr).parenIf (r.lvl ≤ precedence o.ty))
        (le_lvl_parenIf _ l.lvl (precedence_lt_100 _)) (lt_lvl_parenIf _ r.lvl (precedence_lt_100 _))
      simp only [T.pr, T.k, T.toExpr, T.nest, T.size, List.append_assoc, List.cons_append, List.nil_append] at hs ⊢
      exact h.mono (by split <;> split <;> omega) (by omega) (by omega)
    | .idx l i, ⟨hwl, hwi⟩ => by
      have hs := T.size_le_pr (.idx l i)
      have h := Shows.idx ((T.shows l hwl).parenIf (l.lvl < INDEX)) (T.shows i hwi) (le_lvl_parenIf INDEX l.lvl (by decide))
      simp only [T.pr, T.k, T.toExpr, T.nest, T.size, List.append_assoc, List.cons_append, List.nil_append] at hs ⊢
      exact h.mono (by split <;> omega) (by omega) (by omega)
    | .call l args, ⟨hwl, hwa⟩ => by
      have hs := T.size_le_pr (.call l args)
      have h := Shows.call ((T.shows l hwl).parenIf (l.lvl < CALL)) args (LP_all args hwa) (le_lvl_parenIf CALL l.lvl (by decide))
      simp only [T.pr, T.k, T.toExpr, T.nest, T.size, List.append_assoc, List.cons_append, List.nil_append] at hs ⊢
      exact h.mono (by split <;> omega) (by omega) (by omega)
    | .arr els, hwf => by
      have hs := T.size_le_pr (.arr els)
      have h := Shows.arr els (LP_all els hwf)
      simp only [T.pr, T.k, T.toExpr, T.nest, T.size, List.cons_append, List.nil_append] at hs ⊢
      exact h.mono (by omega) (by omega) (by omega)

  theorem LL_all : ∀ (ts : TL), ts.wf → LLstmt ts
    | .nil, _ => by
      intro f endTok c rest prev tn fn d acc hnc _ _ hf
      obtain ⟨f, rfl⟩ : ∃ f', f = f' + 1 := ⟨f - 1, by simp only [TL.size] at hf; omega⟩
      exact ⟨c, by simp [TL.prRest, TL.toExprs, parseExprListLoop, PState.peekIs, PState.peek, hnc, PState.expectPeek,
        PState.next, PState.cur]⟩
    | .cons t r, ⟨hwt, hwr⟩ => by
      intro f endTok c rest prev tn fn d acc hnc hpe hd hf
      simp only [TL.size, TL.nest] at hd hf
      obtain ⟨f, rfl⟩ : ∃ f', f = f' + 1 := ⟨f - 1, by omega⟩
      obtain ⟨pv, h⟩ := (T.shows t hwt).whole f (r.prRest ++ endTok :: rest) commaT tn fn d
        (r.headPrec_prRest endTok rest hpe) (by omega) (by omega)
      obtain ⟨pv', h'⟩ := LL_all r hwr f endTok (lastTok t.pr) rest pv tn fn d (acc ++ [t.toExpr]) hnc hpe (by omega) (by omega)
      refine ⟨pv', ?_⟩
      simp only [TL.prRest, TL.toExprs, List.append_assoc, List.cons_append, List.nil_append, parseExprListLoop, PState.peekIs,
        PState.peek, PState.next, PState.cur, List.tail_cons, List.headD_cons, show (commaT.ty == TokType.COMMA) = true from rfl,
        ↓reduceIte, h, h']

  theorem LP_all : ∀ (ts : TL), ts.wf → LPstmt ts
    | .nil, _ => by
      intro f endTok c rest prev tn fn d _ _ _ _ hf
      obtain ⟨f, rfl⟩ : ∃ f', f = f' + 1 := ⟨f - 1, by omega⟩
      exact ⟨c, by simp [TL.pr, TL.toExprs, parseExprList, PState.peekIs, PState.peek, PState.next, PState.cur]⟩
    | .cons t r, ⟨hwt, hwr⟩ => by
      intro f endTok c rest prev tn fn d hnc hpe hpf hd hf
      simp only [TL.size, TL.nest] at hd hf
      obtain ⟨f, rfl⟩ : ∃ f', f = f' + 1 := ⟨f - 1, by omega⟩
      obtain ⟨pv, h⟩ := (T.shows t hwt).whole f (r.prRest ++ endTok :: rest) c tn fn d
        (r.headPrec_prRest endTok rest hpe) (by omega) (by omega)
      obtain ⟨pv', h'⟩ := LL_all r hwr f endTok (lastTok t.pr) rest pv tn fn d [t.toExpr] hnc hpe (by omega) (by omega)
      -- the list is not empty: its first token has a prefix parselet, the closing token has none
      obtain ⟨c', tl, htl, hc'⟩ := (T.shows t hwt).head
      have hne : (c'.ty == endTok.ty) = false := beq_eq_false_iff_ne.mpr fun he => hc' (he ▸ hpf)
      refine ⟨pv', ?_⟩
      simp only [TL.pr, TL.toExprs, List.append_assoc, parseExprList, PState.peekIs, PState.peek, PState.next, PState.cur,
        List.tail_cons, List.headD_cons, htl, List.cons_append, hne, Bool.false_eq_true, ↓reduceIte]
      rw [← List.cons_append, ← htl, h]
      exact h'
end

theorem L_all : ∀ (t : T), t.wf → Lstmt t := fun t h => (T.shows t h).reads

/-- `L_all` for an operand as it is printed inside a bigger tree; build on `(T.shows t hwf).parenIf b` -/
theorem operand_of_L (t : T) (hwf : t.wf) (hL : Lstmt t) (b : Bool) (p f : Nat) (rest : List Token) (prev : Token)
    (tn fn : Bool) (d : Nat)
    (hb : b = false → p < t.plvl ∧ headPrec rest ≤ t.lvl)
    (hd : d + t.nest + (if b then 1 else 0) ≤ maxNesting) (hf : 4 * t.size + 3 ≤ f) :
    ∃ prev', parseExpression f p ⟨parenIf b t.pr ++ rest, prev, tn, fn, d⟩ =
      unwind (infixLoop (f - (if b then 1 else t.k)) p t.toExpr
        ⟨lastTok (parenIf b t.pr) :: rest, prev', tn, fn, d + 1⟩) := by
  cases b with
  | false => exact hL p f rest prev tn fn d (hb rfl).1 (hb rfl).2 hd (by omega)
  | true =>
    exact ((T.shows t hwf).parenAt (Nat.le_add_left 100 p)).reads p f rest prev tn fn d (by omega)
      (Nat.le_trans (precedence_le _) (by decide)) (by simpa [Nat.add_assoc] using hd) (by omega)

def qT : Token := ⟨.QUESTION, ['?']⟩
def colT : Token := ⟨.COLON, [':']⟩

theorem parseInfix_ternary (f : Nat) (left : Expr) (s : PState) :
    parseInfix (f + 1) .ternary left s =
      if s.tern then none else
      match parseExpression f LOWEST { s with tern := true }.next with
      | none => none
      | some (t, s2) =>
        match s2.expectPeek .COLON with
        | none => none
        | some s3 =>
          match parseExpression f LOWEST s3.next with
          | none => none
          | some (e, s4) => some (.ternary left t e, { s4 with tern := false }) := rfl

/-- a ternary at the top: condition and arms anything that is shown, with no parentheses around them (the arms are
    parsed by the parselet, one `parseExpression` call deeper than the condition: `dt + 1`, `de + 1`) -/
theorem Shows.round_trip_ternary {cs ts es : List Token} {c t e : Expr} {lc plc kc nc dc lt plt kt nt dt le ple ke ne de : Nat}
    (hc : Shows cs c lc plc kc nc dc) (ht : Shows ts t lt plt kt nt dt) (he : Shows es e le ple ke ne de)
    (hnc : dc ≤ maxNesting) (hnt : dt + 1 ≤ maxNesting) (hne : de + 1 ≤ maxNesting) :
    parse (retTok :: (cs ++ qT :: (ts ++ colT :: (es ++ [semiTok, Token.eof])))) = some [.ret (.ternary c t e)] := by
  have := hc.n_le
  have := ht.n_le
  have := he.n_le
  have := hc.k_lt
  generalize hF : fuelFor (retTok :: (cs ++ qT :: (ts ++ colT :: (es ++ [semiTok, Token.eof])))) - 1 = F
  have hFv := hF
  simp only [fuelFor, List.length_cons, List.length_append, List.length_nil] at hFv
  -- the condition, then the `?` with the two arms up to the colon and up to the semicolon
  obtain ⟨pv, h1⟩ := hc.reads LOWEST F (qT :: (ts ++ colT :: (es ++ [semiTok, Token.eof]))) retTok false false 0
    (Nat.lt_of_lt_of_le hc.lvl_pos hc.lvl_le) hc.lvl_pos (by omega) (by omega)
  obtain ⟨g, hg⟩ := Nat.exists_eq_add_of_le' (show 2 ≤ F - kc by omega)
  obtain ⟨pv2, h2⟩ := ht.whole g (colT :: (es ++ [semiTok, Token.eof])) qT true false 1 rfl (by omega) (by omega)
  obtain ⟨pv3, h3⟩ := he.whole g [semiTok, Token.eof] colT true false 1 rfl (by omega) (by omega)
  refine parse_return _ _ (lastTok es) pv3 ?_
  rw [hF, h1, hg, infixLoop_succ (g + 1) _ _ _ qT _ pv false false 1 .ternary rfl rfl (by decide),
    parseInfix_ternary]
  simp only [Bool.false_eq_true, ↓reduceIte, PState.next_cons, h2]
  rw [show PState.expectPeek ⟨lastTok ts :: colT :: (es ++ [semiTok, Token.eof]), pv2, true, false, 1⟩ .COLON =
    some ⟨colT :: (es ++ [semiTok, Token.eof]), lastTok ts, true, false, 1⟩ from rfl]
  simp only [PState.next_cons, h3]
  rfl

end EvalFilter.Parser
