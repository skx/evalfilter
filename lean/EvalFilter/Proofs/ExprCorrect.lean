/-
  Compiler correctness for the value-producing fragment of the language (`pureE`): running the code the
  compiler emits for `e`, wherever it is placed in a program, does what the big-step semantics `evalE` says -
  an error ends the run with that error, on success the value is on top of the stack and the VM continues
  right behind the code.  Induction over the tree in the calculus of runs (`expr_runs`); `Correct_iff` reads
  it as equations of the VM loop.
-/
import EvalFilter.Model.Api
import EvalFilter.Proofs.Exec
import EvalFilter.Proofs.Compile

namespace EvalFilter.Exec
open EvalFilter.VM EvalFilter.Compiler

/-- the constant a literal denotes: the first pool entry of its type that prints like it -/
def poolVal (consts : List Value) (v : Value) : Res :=
  match findConst consts v 0 with
  | some k => (match consts[k]? with | some c => .ok c | none => err "badConstant")
  | none => err "badConstant"

theorem findConst_append (cs ex : List Value) (v : Value) (i : Nat) :
    findConst (cs ++ ex) v i = (findConst cs v i).orElse fun _ => findConst ex v (i + cs.length) := by
  induction cs generalizing i with
  | nil => simp [findConst]
  | cons c rest ih =>
    simp only [List.cons_append, findConst]
    split
    · rfl
    · simp [ih, Nat.add_assoc, Nat.add_comm 1]

/-- the index `withConst` hands out is what the literal denotes in every later pool -/
theorem withConst_pool (st : CState) (op : Op) (v : Value) (P : List Value)
    (hP : ∃ ex, P = (withConst st op v).2.consts ++ ex) :
    ∃ c, P[(withConst st op v).1.arg]? = some c ∧ poolVal P v = .ok c ∧ c.inspect = v.inspect := by
  obtain ⟨ex, rfl⟩ := hP
  have key : findConst ((withConst st op v).2.consts ++ ex) v 0 = some (withConst st op v).1.arg := by
    simp only [withConst, addConstant]
    cases hf : findConst st.consts v 0 <;> simp [hf, findConst_append, findConst]
  obtain ⟨_, c, hc, hi⟩ := Compiler.findConst_get _ _ _ _ key
  rw [Nat.sub_zero] at hc
  exact ⟨c, hc, by simp [poolVal, key, hc], hi⟩

/-- the marker of "the expression semantics does not say": a call of a user-defined (or unknown) function
    inside an expression, or of a function that returns nothing where a value is needed.  It is the
    out-of-budget marker, which no operation of the language produces (`Proofs/NoOof.lean`). -/
def undefErr : Err := .outOfFuel

def applyPrefix (op : Str) (v : Value) : Res :=
  match prefixOp op with
  | some .bang => .ok (bangOp v)
  | some .minus => minusOp v
  | some .squareRoot => sqrtOp v
  | _ => .error .unsupported

def applyInfix (M : Machine) (op : Str) (l r : Value) : Except Err (Value × Str) :=
  match binaryOp op with
  | some .index => (indexOp l r).map (fun v => (v, []))
  | some .range => (rangeOp l r).map (fun v => (v, []))
  | some o => binop M o l r
  | none => .error .unsupported

mutual
  /-- big-step value of an expression: operands left to right, then the operator -/
  def evalE (M : Machine) (obj : HostVal) (env : Env) : Expr → Str → Res × Str
    | .boolLit b, out => (.ok (.bool b), out)
    | .intLit _ v, out =>
        if v ≥ 0 && v.toInt ≤ inlineLimit then (.ok (.int (Int64.ofNat v.toInt.toNat)), out)
        else (poolVal M.consts (.int v), out)
    | .floatLit _ f, out => (poolVal M.consts (.float f), out)
    | .strLit s, out => (poolVal M.consts (.str s), out)
    | .regexpLit _ val flags, out =>
        (poolVal M.consts (.regexp (if flags.isEmpty then val else ['(', '?'] ++ flags ++ [')'] ++ val)), out)
    | .ident name, out =>
        (match poolVal M.consts (.str name) with
         | .ok c => lookup obj env c.inspect
         | .error e => .error e, out)
    | .prefix op r, out =>
        match evalE M obj env r out with
        | (.ok v, o) => (applyPrefix op v, o)
        | (.error e, o) => (.error e, o)
    | .infix op l r, out =>
        match evalE M obj env l out with
        | (.error e, o) => (.error e, o)
        | (.ok lv, o1) =>
          match evalE M obj env r o1 with
          | (.error e, o) => (.error e, o)
          | (.ok rv, o2) =>
            match applyInfix M op lv rv with
            | .ok (v, o) => (.ok v, o2 ++ o)
            | .error e => (.error e, o2)
    | .index l i, out =>
        match evalE M obj env l out with
        | (.error e, o) => (.error e, o)
        | (.ok lv, o1) =>
          match evalE M obj env i o1 with
          | (.error e, o) => (.error e, o)
          | (.ok iv, o2) => (indexOp lv iv, o2)
    | .arrayLit els, out =>
        match evalEs M obj env els out with
        | (.ok vs, o) => (.ok (.array vs), o)
        | (.error e, o) => (.error e, o)
    | .ternary c t f, out =>
        match evalE M obj env c out with
        | (.error e, o) => (.error e, o)
        | (.ok cv, o) => if cv.truthy then evalE M obj env t o else evalE M obj env f o
    | .hashLit pairs, out =>
        -- keys and values in written order (the pairs are in the compiler's order), then the hash as OpHash
        -- builds it (`buildHash` with the fuel `step` gives it)
        match evalPs M obj env pairs out with
        | (.ok kvs, o) =>
          (match buildHash (kvs.length + 1) kvs.reverse [] with
           | .ok ps => (.ok (.hash ps), o)
           | .error e => (.error e, o))
        | (.error e, o) => (.error e, o)
    | .call fn args, out =>
        -- a built-in or host function: arguments left to right, then the function; calls of user-defined
        -- functions are statements (`callWith`)
        match evalEs M obj env args out with
        | (.error e, o) => (.error e, o)
        | (.ok vs, o) =>
          match lookupFn M fn.str with
          | none => (.error undefErr, o)
          | some impl =>
            ((match (callImpl fn.str impl vs).res with
              | .panic => .error .panic
              | .unsupported => .error .unsupported
              | .val .nil => .error .panic
              | .val .void => .error undefErr
              | .val v => .ok v), o ++ (callImpl fn.str impl vs).out)
    | _, out => (.error .unsupported, out)
  /-- the keys and values of a hash literal, in the order they are pushed: k1, v1, k2, v2, … -/
  def evalPs (M : Machine) (obj : HostVal) (env : Env) : List Pair → Str → Except Err (List Value) × Str
    | [], out => (.ok [], out)
    | .mk k v :: ps, out =>
        match evalE M obj env k out with
        | (.error x, o) => (.error x, o)
        | (.ok kv, o1) =>
          match evalE M obj env v o1 with
          | (.error x, o) => (.error x, o)
          | (.ok vv, o2) =>
            match evalPs M obj env ps o2 with
            | (.error x, o') => (.error x, o')
            | (.ok rest, o') => (.ok (kv :: vv :: rest), o')
  def evalEs (M : Machine) (obj : HostVal) (env : Env) : List Expr → Str → Except Err (List Value) × Str
    | [], out => (.ok [], out)
    | e :: es, out =>
        match evalE M obj env e out with
        | (.error x, o) => (.error x, o)
        | (.ok v, o) =>
          match evalEs M obj env es o with
          | (.error x, o') => (.error x, o')
          | (.ok vs, o') => (.ok (v :: vs), o')
end

/-- the pairs of a hash literal stand in the order the compiler emits them (by key text, then value
    text, with which `normPairs` tags each pair): what `normExpr` makes of every hash literal -/
def pairsSorted (pairs : List Pair) : Bool :=
  decide ((normPairs pairs).Pairwise (fun a b => (!(pairLt b a)) = true))

mutual
  /-- the value-producing fragment -/
  def pureE : Expr → Bool
    | .boolLit _ | .intLit _ _ | .floatLit _ _ | .strLit _ | .regexpLit _ _ _ | .ident _ => true
    | .prefix _ r => pureE r
    | .infix op l r => !isCompound op && pureE l && pureE r
    | .index l i => pureE l && pureE i
    | .arrayLit els => pureEs els
    | .ternary c t f => pureE c && pureE t && pureE f
    | .hashLit pairs => purePs pairs && pairsSorted pairs
    | .call _ args => pureEs args
    | _ => false
  def purePs : List Pair → Bool
    | [] => true
    | .mk k v :: ps => pureE k && pureE v && purePs ps
  def pureEs : List Expr → Bool
    | [] => true
    | e :: es => pureE e && pureEs es
end

def after (M : Machine) (obj : HostVal) (code : Bytes) (fuel ip : Nat) (stack : List Value) (env : Env)
    (polls depth : Nat) (r : Res × Str) : Res × RunSt :=
  match r with
  | (.ok v, out') => loop M obj code fuel ip (v :: stack) ⟨env, out', polls, depth⟩
  | (.error e, out') => (.error e, ⟨env, out', polls, depth⟩)

def afterL (M : Machine) (obj : HostVal) (code : Bytes) (fuel ip : Nat) (stack : List Value) (env : Env)
    (polls depth : Nat) (r : Except Err (List Value) × Str) : Res × RunSt :=
  match r with
  | (.ok vs, out') => loop M obj code fuel ip (vs.reverse ++ stack) ⟨env, out', polls, depth⟩
  | (.error e, out') => (.error e, ⟨env, out', polls, depth⟩)

theorem prefixOp_cases {op : Str} {o : Op} (h : prefixOp op = some o) : o = .bang ∨ o = .minus ∨ o = .squareRoot := by
  unfold prefixOp at h
  split at h <;> first | (cases h; simp) | cases h

theorem binaryOp_kinds {op : Str} {o : Op} (h : binaryOp op = some o) :
    o = .index ∨ o = .range ∨ isBinary o = true := by
  unfold binaryOp at h
  split at h <;> first | (cases h; simp [isBinary]) | cases h

theorem applyInfix_binary {M : Machine} {op : Str} {o : Op} (h : binaryOp op = some o) (hb : isBinary o = true)
    (l r : Value) : applyInfix M op l r = binop M o l r := by
  unfold applyInfix
  rw [h]
  cases o <;> simp [isBinary] at hb <;> rfl

def pushRes (next : Nat) (stack : List Value) (env : Env) (polls depth : Nat) : Res × Str → StepOut
  | (.ok v, o) => .cont next (v :: stack) ⟨env, o, polls, depth⟩
  | (.error e, o) => .halt (.error e) ⟨env, o, polls, depth⟩

section
variable {M : Machine} {obj : HostVal} {len : Nat} {rb : Bytes → RunSt → Res × RunSt} {arg next : Nat}
  {stack : List Value} {env : Env} {out : Str} {polls depth : Nat}

theorem step_lookup {c : Value} (h : M.consts[arg]? = some c) :
    step M obj len rb Op.lookup.toNat arg next stack ⟨env, out, polls, depth⟩ =
      pushRes next stack env polls depth (lookup obj env c.inspect, out) := by
  show (match M.consts[arg]? with | none => _ | some c => _) = _
  rw [h]
  show (match lookup obj env c.inspect with | .error e => _ | .ok v => _) = _
  cases lookup obj env c.inspect <;> rfl

theorem step_index (i l : Value) :
    step M obj len rb Op.index.toNat arg next (i :: l :: stack) ⟨env, out, polls, depth⟩ =
      pushRes next stack env polls depth (indexOp l i, out) := by
  show (match indexOp l i with | .error e => _ | .ok v => _) = _
  cases indexOp l i <;> rfl

theorem step_prefix {op : Str} {o : Op} (h : prefixOp op = some o) (v : Value) :
    step M obj len rb o.toNat arg next (v :: stack) ⟨env, out, polls, depth⟩ =
      pushRes next stack env polls depth (applyPrefix op v, out) := by
  simp only [applyPrefix, h]
  rcases prefixOp_cases h with rfl | rfl | rfl
  · rfl
  · show (match minusOp v with | .error e => _ | .ok x => _) = _
    cases minusOp v <;> rfl
  · show (match sqrtOp v with | .error e => _ | .ok x => _) = _
    cases sqrtOp v <;> rfl

def infixRes (M : Machine) (op : Str) (l r : Value) (out : Str) : Res × Str :=
  match applyInfix M op l r with
  | .ok (v, o) => (.ok v, out ++ o)
  | .error e => (.error e, out)

theorem step_infix {op : Str} {o : Op} (h : binaryOp op = some o) (r l : Value) :
    step M obj len rb o.toNat arg next (r :: l :: stack) ⟨env, out, polls, depth⟩ =
      pushRes next stack env polls depth (infixRes M op l r out) := by
  unfold infixRes
  rcases binaryOp_kinds h with rfl | rfl | hb
  · rw [step_index]
    simp only [applyInfix, h]
    cases indexOp l r <;> simp [Except.map]
  · simp only [applyInfix, h, Except.map]
    show (match rangeOp l r with | .error e => _ | .ok v => _) = _
    cases rangeOp l r <;> simp [pushRes]
  · rw [step_binary hb, applyInfix_binary h hb]
    cases binop M o l r <;> rfl

theorem step_array (vs : List Value) :
    step M obj len rb Op.array.toNat vs.length next (vs.reverse ++ stack) ⟨env, out, polls, depth⟩ =
      .cont next (.array vs :: stack) ⟨env, out, polls, depth⟩ := by
  show (match popN vs.length (vs.reverse ++ stack) with | none => _ | some (els, rest) => _) = _
  rw [popN_reverse_append]

theorem step_hash (kvs : List Value) (he : kvs.length % 2 = 0) :
    step M obj len rb Op.hash.toNat kvs.length next (kvs.reverse ++ stack) ⟨env, out, polls, depth⟩ =
      pushRes next stack env polls depth
        (match buildHash (kvs.length + 1) kvs.reverse [] with
         | .ok ps => (.ok (.hash ps), out)
         | .error e => (.error e, out)) := by
  show (match popN (2 * ((kvs.length + 1) / 2)) (kvs.reverse ++ stack) with | none => _ | some (items, rest) => _) = _
  rw [show 2 * ((kvs.length + 1) / 2) = kvs.length by omega, popN_reverse_append]
  show (match buildHash (kvs.length + 1) kvs.reverse [] with | .error e => _ | .ok ps => _) = _
  cases buildHash (kvs.length + 1) kvs.reverse [] <;> rfl

end

theorem evalEs_length (M : Machine) (obj : HostVal) (env : Env) :
    ∀ (es : List Expr) (out : Str) (vs : List Value) (o : Str), evalEs M obj env es out = (.ok vs, o) → vs.length = es.length
  | [], out, vs, o, h => by cases h; rfl
  | e :: es, out, vs, o, h => by
    simp only [evalEs] at h
    split at h
    · cases h
    · split at h
      · cases h
      · rename_i heq
        cases h
        simp [evalEs_length M obj env es _ _ _ heq]

theorem evalPs_length (M : Machine) (obj : HostVal) (env : Env) :
    ∀ (ps : List Pair) (out : Str) (vs : List Value) (o : Str), evalPs M obj env ps out = (.ok vs, o) → vs.length = ps.length * 2
  | [], out, vs, o, h => by cases h; rfl
  | .mk k v :: ps, out, vs, o, h => by
    simp only [evalPs] at h
    split at h
    · cases h
    · split at h
      · cases h
      · split at h
        · cases h
        · rename_i heq
          cases h
          have := evalPs_length M obj env ps _ _ _ heq
          simp only [List.length_cons]; omega

mutual
  theorem pure_size_pos : ∀ (e : Expr), pureE e = true → 1 ≤ e.size
    | .boolLit _, _ | .intLit _ _, _ | .floatLit _ _, _ | .strLit _, _ | .regexpLit _ _ _, _ | .ident _, _
    | .prefix _ _, _ | .index _ _, _ | .arrayLit _, _ | .ternary _ _ _, _ | .hashLit _, _ | .call _ _, _ => by simp [Expr.size]
    | .infix op l r, _ => by simp only [Expr.size]; split <;> omega
  theorem purePs_length_le : ∀ (ps : List Pair), purePs ps = true → ps.length * 2 ≤ Pair.sizes ps
    | [], _ => by simp [Pair.sizes]
    | .mk k v :: ps, h => by
      simp only [purePs, Bool.and_eq_true] at h
      have := pure_size_pos k h.1.1
      have := pure_size_pos v h.1.2
      have := purePs_length_le ps h.2
      simp only [List.length_cons, Pair.sizes]; omega
  theorem pures_length_le : ∀ (es : List Expr), pureEs es = true → es.length ≤ Expr.sizes es
    | [], _ => by simp [Expr.sizes]
    | e :: es, h => by
      simp only [pureEs, Bool.and_eq_true] at h
      have := pure_size_pos e h.1
      have := pures_length_le es h.2
      simp only [List.length_cons, Expr.sizes]; omega
end

/-- `expr_runs` as equations of the loop (`Correct_iff`), the form in which C01 states it -/
def Correct (M : Machine) (obj : HostVal) (code : Bytes) (e : Expr) (base : Nat) : Prop :=
  ∀ (stack : List Value) (env : Env) (out : Str) (polls depth : Nat),
    (evalE M obj env e out).1 ≠ .error undefErr → ∃ n k, ∀ fuel,
    loop M obj code (fuel + n) base stack ⟨env, out, polls, depth⟩ =
      after M obj code fuel (base + e.size) stack env (polls + k) depth (evalE M obj env e out)

def CorrectP (M : Machine) (obj : HostVal) (code : Bytes) (ps : List Pair) (base : Nat) : Prop :=
  ∀ (stack : List Value) (env : Env) (out : Str) (polls depth : Nat),
    (evalPs M obj env ps out).1 ≠ .error undefErr → ∃ n k, ∀ fuel,
    loop M obj code (fuel + n) base stack ⟨env, out, polls, depth⟩ =
      afterL M obj code fuel (base + Pair.sizes ps) stack env (polls + k) depth (evalPs M obj env ps out)

/-- where the run stands after an expression; of `undefErr` nothing is claimed -/
def Pt.ofRes (ip : Nat) (stack : List Value) (env : Env) : Res × Str → Pt
  | (.ok v, o) => .at ip (v :: stack) env o
  | (.error e, o) => if e = undefErr then .undef else .done (.error e) env o

def Pt.ofVals (ip : Nat) (stack : List Value) (env : Env) : Except Err (List Value) × Str → Pt
  | (.ok vs, o) => .at ip (vs.reverse ++ stack) env o
  | (.error e, o) => if e = undefErr then .undef else .done (.error e) env o

theorem Pt.ofRes_run {M : Machine} {obj : HostVal} {code : Bytes} {depth ip : Nat} {stack : List Value} {env : Env}
    {r : Res × Str} (fuel polls : Nat) (y : Res × RunSt) :
    y ∈ (Pt.ofRes ip stack env r).run M obj code depth fuel polls ↔
      ¬ r.1 = .error undefErr ∧ after M obj code fuel ip stack env polls depth r = y := by
  obtain ⟨e | v, o⟩ := r
  · by_cases he : e = undefErr <;> simp [Pt.ofRes, Pt.run, after, he]
  · simp [Pt.ofRes, Pt.run, after]

theorem Pt.ofVals_run {M : Machine} {obj : HostVal} {code : Bytes} {depth ip : Nat} {stack : List Value} {env : Env}
    {r : Except Err (List Value) × Str} (fuel polls : Nat) (y : Res × RunSt) :
    y ∈ (Pt.ofVals ip stack env r).run M obj code depth fuel polls ↔
      ¬ r.1 = .error undefErr ∧ afterL M obj code fuel ip stack env polls depth r = y := by
  obtain ⟨e | v, o⟩ := r
  · by_cases he : e = undefErr <;> simp [Pt.ofVals, Pt.run, afterL, he]
  · simp [Pt.ofVals, Pt.run, afterL]

theorem Correct_iff {M : Machine} {obj : HostVal} {code : Bytes} {e : Expr} {base : Nat} :
    Correct M obj code e base ↔ ∀ stack env out depth,
      Runs M obj code depth true base stack env out (Pt.ofRes (base + e.size) stack env (evalE M obj env e out)) :=
  ⟨fun h stack env out depth => (Runs.iff_loop Pt.ofRes_run).2 fun polls => h stack env out polls depth,
   fun h stack env out polls depth => (Runs.iff_loop Pt.ofRes_run).1 (h stack env out depth) polls⟩

theorem pool_trans {P a b : List Value} (h1 : ∃ ex, P = b ++ ex) (h2 : ∃ e, b = a ++ e) : ∃ ex, P = a ++ ex := by
  obtain ⟨ex, rfl⟩ := h1; obtain ⟨e, rfl⟩ := h2; exact ⟨e ++ ex, by simp⟩

section rules
variable {M : Machine} {obj : HostVal} {code : Bytes} {depth ip : Nat} {i : Instr} {rest : List Instr} {stack : List Value}
  {env : Env} {out : Str} {x : Bool}

theorem withConst_arg (ctx : Ctx M code) {cst : CState} {op : Op} {v : Value} (h3 : op.length = 3)
    (hp : ∃ ex, M.consts = (withConst cst op v).2.consts ++ ex) :
    ∃ c, M.consts[storedArg (withConst cst op v).1]? = some c ∧ poolVal M.consts v = .ok c ∧ c.inspect = v.inspect := by
  obtain ⟨c, hget, hpv, hi⟩ := withConst_pool cst op v M.consts hp
  refine ⟨c, ?_, hpv, hi⟩
  rwa [storedArg_of_lt h3 (Nat.lt_of_lt_of_le (List.getElem?_eq_some_iff.mp hget).1 ctx.pool)]

/-- OpConstant pushes the pool value `c` the literal denotes: `c` first and the run for every state behind it,
    because `c.inspect = v.inspect` is what the callers rewrite with before they say where they stand -/
theorem Runs.const (ctx : Ctx M code) {cst : CState} {v : Value}
    (hc : CodeAt code ip ((withConst cst .constant v).1 :: rest))
    (hp : ∃ ex, M.consts = (withConst cst .constant v).2.consts ++ ex) :
    ∃ c, poolVal M.consts v = .ok c ∧ c.inspect = v.inspect ∧
      ∀ {obj : HostVal} {depth : Nat} {stack : List Value} {env : Env} {out : Str},
        Runs M obj code depth true ip stack env out (.at (ip + 3) (c :: stack) env out) := by
  obtain ⟨c, hget, hpv, hi⟩ := withConst_arg ctx rfl hp
  exact ⟨c, hpv, hi, Runs.instr ctx.nd hc fun rb polls y hy => by
    rw [withConst_op, step_constant hget]; exact Option.some.inj hy⟩

theorem Runs.jump (ctx : Ctx M code) {t : Nat} (hc : CodeAt code ip (⟨.jump, t⟩ :: rest)) (ht : t < code.length) :
    Runs M obj code depth x ip stack env out (.at t stack env out) :=
  Runs.instr ctx.nd hc fun rb polls y hy => by
    rw [storedArg_of_lt rfl (Nat.lt_of_lt_of_le ht ctx.len), step_jump ht]; exact Option.some.inj hy

theorem Runs.jif (ctx : Ctx M code) {t : Nat} {c : Value} (hc : CodeAt code ip (⟨.jumpIfFalse, t⟩ :: rest))
    (ht : t < code.length) :
    Runs M obj code depth x ip (c :: stack) env out (.at (if c.truthy then ip + 3 else t) stack env out) :=
  Runs.instr ctx.nd hc fun rb polls y hy => by
    rw [storedArg_of_lt rfl (Nat.lt_of_lt_of_le ht ctx.len), step_jif ht]; exact Option.some.inj hy

theorem Runs.placeholder (ctx : Ctx M code) (hc : CodeAt code ip (⟨.placeholder, 0⟩ :: rest)) :
    Runs M obj code depth x ip stack env out (.at (ip + 1) stack env out) :=
  Runs.instr ctx.nd hc fun rb polls y hy => by rw [step_placeholder]; exact Option.some.inj hy

theorem Runs.ret (ctx : Ctx M code) {v : Value} (hc : CodeAt code ip (⟨.return, 0⟩ :: rest)) :
    Runs M obj code depth x ip (v :: stack) env out (.done (.ok v) env out) :=
  Runs.instr ctx.nd hc fun _ _ _ hy => Option.some.inj hy

theorem Runs.res (hM : NeverDone M) (hc : CodeAt code ip (i :: rest)) {next : Nat} {stack' : List Value} {r : Res × Str}
    (h : ∀ rb polls, step M obj code.length rb i.op.toNat (storedArg i) (ip + i.size) stack ⟨env, out, polls, depth⟩ =
      pushRes next stack' env polls depth r) :
    Runs M obj code depth x ip stack env out (Pt.ofRes next stack' env r) :=
  Runs.instr hM hc fun rb polls y hy => by
    rw [h]
    obtain ⟨e | v, o⟩ := r
    · simp only [Pt.ofRes] at hy
      split at hy
      · cases hy
      · exact Option.some.inj hy
    · exact Option.some.inj hy

theorem Runs.lit (ctx : Ctx M code) {cst : CState} {v : Value} (hc : CodeAt code ip ((withConst cst .constant v).1 :: rest))
    (hp : ∃ ex, M.consts = (withConst cst .constant v).2.consts ++ ex) :
    Runs M obj code depth true ip stack env out (Pt.ofRes (ip + 3) stack env (poolVal M.consts v, out)) := by
  obtain ⟨c, hpv, _, e⟩ := Runs.const ctx hc hp
  rw [hpv]; exact e

/-- an operand, then what is done with its value (`g`); its error ends whatever is being computed (`fail`).
    `T` says where a result of that computation leaves the run: `Pt.ofRes …`, `Pt.ofVals …` or `Pt.ofOutcome …`.
    Like every combinator, it states its conclusion as the `match` that the unfolded `evalE` / `execE` shows
    at this place, so that it unifies with the goal by reduction (`generalizing := false`: the hypotheses that
    mention `r` stay outside the match). -/
theorem Runs.eval {γ : Type} {T : γ → Pt} {fail : Err → Str → γ} {g : Value → Str → γ} {ip' : Nat}
    {r : Res × Str}
    (h1 : Runs M obj code depth true ip stack env out (Pt.ofRes ip' stack env r))
    (hT : ∀ {e o}, Pt.ofRes ip' stack env (.error e, o) = T (fail e o))
    (h2 : ∀ v o, Runs M obj code depth x ip' (v :: stack) env o (T (g v o))) :
    Runs M obj code depth x ip stack env out
      (T (match (generalizing := false) r with | (.error e, o) => fail e o | (.ok v, o) => g v o)) := by
  obtain ⟨e | v, o⟩ := r
  · cases x
    · exact hT ▸ h1.inexact
    · exact hT ▸ h1
  · exact h1.then (h2 v o)

end rules

mutual
  theorem expr_runs (e : Expr) {base : Nat} {cst : CState} {r : List Instr × CState} (hpure : pureE e = true)
      (h : compileExpr e base cst = .ok r) {M : Machine} {code : Bytes} (ctx : Ctx M code) (hc : CodeAt code base r.1)
      (hp : ∃ ex, M.consts = r.2.consts ++ ex) (obj : HostVal) (stack : List Value) (env : Env) (out : Str) (depth : Nat) :
      Runs M obj code depth true base stack env out (Pt.ofRes (base + e.size) stack env (evalE M obj env e out)) := by
    match e with
    | .boolLit b =>
      cases h
      cases b
      · exact Runs.res ctx.nd hc fun _ _ => step_false
      · exact Runs.res ctx.nd hc fun _ _ => step_true
    | .floatLit _ _ | .strLit _ | .regexpLit _ _ _ => cases h; exact Runs.lit ctx hc hp
    | .intLit _ v =>
      simp only [compileExpr, pure, Except.pure] at h
      simp only [evalE]
      split at h <;> rename_i hin <;> cases h <;> simp only [hin, ↓reduceIte]
      · have hle : v.toInt.toNat < 65536 := by
          simp only [Bool.and_eq_true, decide_eq_true_eq] at hin
          have : v.toInt ≤ 65534 := by simpa [inlineLimit] using hin.2
          omega
        exact Runs.res ctx.nd hc fun _ _ => by rw [storedArg_of_lt rfl hle]; exact step_push
      · exact Runs.lit ctx hc hp
    | .ident name =>
      cases h
      obtain ⟨c, hget, hpv, _⟩ := withConst_arg (op := .lookup) ctx rfl hp
      simp only [evalE, hpv]
      exact Runs.res ctx.nd hc fun _ _ => step_lookup hget
    | .prefix op r' =>
      simp only [compileExpr, bind_ok_eq] at h
      obtain ⟨⟨cr, st1⟩, h1, h3⟩ := h
      split at h3
      · rename_i o ho
        cases h3
        simp only [codeAt_append, compileExpr_size h1] at hc
        have e1 := expr_runs r' hpure h1 ctx hc.1 hp obj stack env out depth
        simp only [evalE, Expr.size, ← Nat.add_assoc]
        generalize evalE M obj env r' out = r1 at e1
        obtain ⟨e | v, o1⟩ := r1
        · exact e1
        · refine e1.then (Runs.res ctx.nd hc.2 fun _ _ => ?_)
          simp only [Instr.size, (prefixOp_plain ho).1]
          exact step_prefix ho v
      · cases h3
    | .infix op l r' =>
      simp only [compileExpr, bind_ok_eq] at h
      obtain ⟨⟨cl, st1⟩, h1, ⟨cr, st2⟩, h2, h3⟩ := h
      simp only [pureE, Bool.and_eq_true, Bool.not_eq_true'] at hpure
      obtain ⟨⟨hco, hpl⟩, hpr⟩ := hpure
      simp only [hco, Bool.false_eq_true, ↓reduceIte] at h3
      split at h3
      · rename_i o ho
        cases h3
        simp only [codeAt_append, codeSize_append, compileExpr_size h1, compileExpr_size h2,
          ← Nat.add_assoc] at hc
        simp only [evalE, Expr.size, hco, Bool.false_eq_true, ↓reduceIte, ← Nat.add_assoc]
        refine (expr_runs l hpl h1 ctx hc.1.1 (pool_trans hp (compileExpr_R h2).ext) obj stack env out depth).eval rfl
          fun lv o1 => (expr_runs r' hpr h2 ctx hc.1.2 hp obj (lv :: stack) env o1 depth).eval rfl
          fun rv o2 => Runs.res ctx.nd hc.2 fun _ _ => ?_
        simp only [Instr.size, (binaryOp_plain ho).1]
        exact step_infix ho rv lv
      · cases h3
    | .index l i =>
      simp only [compileExpr, bind_ok_eq, pure, Except.pure] at h
      obtain ⟨⟨cl, st1⟩, h1, ⟨ci, st2⟩, h2, h3⟩ := h
      cases h3
      simp only [pureE, Bool.and_eq_true] at hpure
      simp only [codeAt_append, codeSize_append, compileExpr_size h1, compileExpr_size h2,
        ← Nat.add_assoc] at hc
      simp only [evalE, Expr.size, ← Nat.add_assoc]
      exact (expr_runs l hpure.1 h1 ctx hc.1.1 (pool_trans hp (compileExpr_R h2).ext) obj stack env out depth).eval rfl
        fun lv o1 => (expr_runs i hpure.2 h2 ctx hc.1.2 hp obj (lv :: stack) env o1 depth).eval rfl
        fun iv o2 => Runs.res ctx.nd hc.2 fun _ _ => step_index iv lv
    | .arrayLit els =>
      simp only [compileExpr, bind_ok_eq, pure, Except.pure] at h
      obtain ⟨⟨c, st1⟩, h1, h2⟩ := h
      cases h2
      have hb := hc.bound
      simp only [codeAt_append, codeSize_append, codeSize_cons, codeSize_nil, compileExprs_size h1, Instr.size,
        Op.length] at hc hb
      have e1 := exprs_runs els hpure h1 ctx hc.1 hp obj stack env out depth
      simp only [evalE, Expr.size, ← Nat.add_assoc]
      have hl := evalEs_length M obj env els out
      generalize evalEs M obj env els out = r1 at e1 hl
      obtain ⟨e | vs, o1⟩ := r1
      · exact e1
      have hlt : els.length < 65536 := by have := pures_length_le els hpure; have := ctx.len; omega
      refine e1.then (Runs.res ctx.nd hc.2 fun _ _ => ?_)
      rw [storedArg_of_lt rfl hlt, ← hl vs o1 rfl]
      exact step_array vs
    | .hashLit ps =>
      simp only [compileExpr, bind_ok_eq, pure, Except.pure] at h
      obtain ⟨⟨c, st1⟩, h1, h2⟩ := h
      cases h2
      simp only [pureE, Bool.and_eq_true] at hpure
      have hb := hc.bound
      simp only [codeAt_append, codeSize_append, codeSize_cons, codeSize_nil, compilePairs_size h1, Instr.size,
        Op.length] at hc hb
      have e1 := pairs_runs ps hpure.1 h1 ctx hc.1 hp obj stack env out depth
      simp only [evalE, Expr.size, ← Nat.add_assoc]
      have hl := evalPs_length M obj env ps out
      generalize evalPs M obj env ps out = r1 at e1 hl
      obtain ⟨e | kvs, o1⟩ := r1
      · exact e1
      have hl := hl kvs o1 rfl
      have hlt : ps.length * 2 < 65536 := by have := purePs_length_le ps hpure.1; have := ctx.len; omega
      refine e1.then (Runs.res ctx.nd hc.2 fun _ _ => ?_)
      rw [storedArg_of_lt rfl hlt, ← hl]
      exact step_hash kvs (by omega)
    | .ternary c t f =>
      simp only [compileExpr, bind_ok_eq, pure, Except.pure] at h
      obtain ⟨⟨cc, st1⟩, h1, ⟨ct, st2⟩, h2, ⟨cf, st3⟩, h3, h4⟩ := h
      cases h4
      simp only [pureE, Bool.and_eq_true] at hpure
      have p2 := pool_trans hp (compileExpr_R h3).ext
      have hb := hc.bound
      simp only [codeAt_append, codeSize_append, codeSize_cons, codeSize_nil, compileExpr_size h1,
        compileExpr_size h2, compileExpr_size h3, Instr.size, Op.length, ← Nat.add_assoc, Nat.add_zero] at hc hb
      obtain ⟨⟨⟨⟨⟨hcc, hjif⟩, hct⟩, hjmp⟩, hcf⟩, hph⟩ := hc
      simp only [evalE, Expr.size, ← Nat.add_assoc]
      refine (expr_runs c hpure.1.1 h1 ctx hcc (pool_trans p2 (compileExpr_R h2).ext) obj stack env out depth).eval rfl
        fun cv o1 => (Runs.jif ctx hjif (by omega)).then ?_
      split
      · have e3 := expr_runs t hpure.1.2 h2 ctx hct p2 obj stack env o1 depth
        generalize evalE M obj env t o1 = r2 at e3 ⊢
        obtain ⟨e | tv, o2⟩ := r2
        · exact e3
        · exact e3.then ((Runs.jump ctx hjmp (by omega)).then (Runs.placeholder ctx hph))
      · have e3 := expr_runs f hpure.2 h3 ctx hcf hp obj stack env o1 depth
        generalize evalE M obj env f o1 = r2 at e3 ⊢
        obtain ⟨e | fv, o2⟩ := r2
        · exact e3
        · exact e3.then (Runs.placeholder ctx hph)
    | .call fn args =>
      simp only [compileExpr, bind_ok_eq, pure, Except.pure] at h
      obtain ⟨⟨ca, st1⟩, h1, h3⟩ := h
      cases h3
      have hb := hc.bound
      simp only [codeAt_append, codeSize_append, codeSize_cons, codeSize_nil, compileExprs_size h1, Instr.size,
        Op.length, withConst_op] at hc hb
      have e1 := exprs_runs args hpure h1 ctx hc.1 (pool_trans hp (addConstant_ext st1 _)) obj stack env out depth
      simp only [evalE, Expr.size, ← Nat.add_assoc]
      have hl := evalEs_length M obj env args out
      generalize evalEs M obj env args out = r1 at e1 hl
      obtain ⟨e | vs, o1⟩ := r1
      · exact e1
      obtain ⟨cn, -, hcn, e2⟩ := Runs.const ctx hc.2 hp
      have hname : cn.inspect = fn.str := hcn      -- `(Value.str s).inspect` is `s` by computation
      have hlt : args.length < 65536 := by have := pures_length_le args hpure; have := ctx.len; omega
      dsimp only
      cases hf : lookupFn M fn.str with
      | none => exact Runs.undef   -- not a built-in or host function: `evalE` does not say
      | some impl =>
        dsimp only
        refine e1.then (e2.then (Runs.instr ctx.nd hc.2.tail fun rb polls y hy => ?_))
        rw [storedArg_of_lt rfl hlt, ← hl vs o1 rfl, step_call_host (hname ▸ hf), hname]
        generalize callImpl fn.str impl vs = cr at hy ⊢
        obtain ⟨co, v | _ | _⟩ := cr
        · -- a function that returns nothing leaves no value: `evalE` does not say, `hy : y ∈ none`
          cases v <;> first | exact Option.some.inj hy | cases hy
        · exact Option.some.inj hy
        · exact Option.some.inj hy
  termination_by structural e
  theorem exprs_runs (es : List Expr) {base : Nat} {cst : CState} {r : List Instr × CState} (hpure : pureEs es = true)
      (h : compileExprs es base cst = .ok r) {M : Machine} {code : Bytes} (ctx : Ctx M code) (hc : CodeAt code base r.1)
      (hp : ∃ ex, M.consts = r.2.consts ++ ex) (obj : HostVal) (stack : List Value) (env : Env) (out : Str) (depth : Nat) :
      Runs M obj code depth true base stack env out (Pt.ofVals (base + Expr.sizes es) stack env (evalEs M obj env es out)) := by
    match es with
    | [] => exact Runs.refl
    | e :: rest =>
      simp only [compileExprs, bind_ok_eq, pure, Except.pure] at h
      obtain ⟨⟨c, st1⟩, h1, ⟨cs, st2⟩, h2, h3⟩ := h
      cases h3
      simp only [pureEs, Bool.and_eq_true] at hpure
      simp only [codeAt_append, compileExpr_size h1] at hc
      simp only [evalEs, Expr.sizes, ← Nat.add_assoc]
      refine (expr_runs e hpure.1 h1 ctx hc.1 (pool_trans hp (compileExprs_R h2).ext) obj stack env out depth).eval rfl
        fun v o1 => ?_
      have e2 := exprs_runs rest hpure.2 h2 ctx hc.2 hp obj (v :: stack) env o1 depth
      generalize evalEs M obj env rest o1 = r2 at e2 ⊢
      obtain ⟨x | vs, o2⟩ := r2
      · exact e2
      · simpa [Pt.ofVals] using e2
  termination_by structural es
  theorem pairs_runs (ps : List Pair) {base : Nat} {cst : CState} {r : List Instr × CState} (hpure : purePs ps = true)
      (h : compilePairs ps base cst = .ok r) {M : Machine} {code : Bytes} (ctx : Ctx M code) (hc : CodeAt code base r.1)
      (hp : ∃ ex, M.consts = r.2.consts ++ ex) (obj : HostVal) (stack : List Value) (env : Env) (out : Str) (depth : Nat) :
      Runs M obj code depth true base stack env out (Pt.ofVals (base + Pair.sizes ps) stack env (evalPs M obj env ps out)) := by
    match ps with
    | [] => exact Runs.refl
    | .mk k v :: rest =>
      simp only [compilePairs, bind_ok_eq, pure, Except.pure] at h
      obtain ⟨⟨ck, st1⟩, h1, ⟨cv, st2⟩, h2, ⟨cs, st3⟩, h3, h4⟩ := h
      cases h4
      simp only [purePs, Bool.and_eq_true] at hpure
      have p2 := pool_trans hp (compilePairs_R h3).ext
      simp only [codeAt_append, codeSize_append, compileExpr_size h1, compileExpr_size h2,
        ← Nat.add_assoc] at hc
      simp only [evalPs, Pair.sizes, ← Nat.add_assoc]
      refine (expr_runs k hpure.1.1 h1 ctx hc.1.1 (pool_trans p2 (compileExpr_R h2).ext) obj stack env out depth).eval rfl
        fun kv o1 => (expr_runs v hpure.1.2 h2 ctx hc.1.2 p2 obj (kv :: stack) env o1 depth).eval rfl fun vv o2 => ?_
      have e3 := pairs_runs rest hpure.2 h3 ctx hc.2 hp obj (vv :: kv :: stack) env o2 depth
      generalize evalPs M obj env rest o2 = r3 at e3 ⊢
      obtain ⟨x | vs, o3⟩ := r3
      · exact e3
      · simpa [Pt.ofVals] using e3
  termination_by structural ps
end

/-- `pairs_runs` in the form of `CorrectP`; `expr_runs` uses `pairs_runs` itself -/
theorem pairs_ok : ∀ (ps : List Pair) (base : Nat) (cst : CState) (r : List Instr × CState), purePs ps = true →
    compilePairs ps base cst = .ok r → ∀ (M : Machine) (obj : HostVal) (code : Bytes), Ctx M code →
    CodeAt code base r.1 → (∃ ex, M.consts = r.2.consts ++ ex) → CorrectP M obj code ps base :=
  fun ps _ _ _ hp h _ obj _ ctx hc hpool stack env out polls depth =>
    (Runs.iff_loop Pt.ofVals_run).1 (pairs_runs ps hp h ctx hc hpool obj stack env out depth) polls

/- `run_instr`, `finish_instr`: statements of record (one instruction as equations of the loop).  Use `Runs.instr`;
   `Runs.iff_loop` reads a run as such equations.  `harg` is not needed. -/
theorem run_instr (M : Machine) (obj : HostVal) {code : Bytes} {off : Nat} {i : Instr} {rest : List Instr}
    (h : CodeAt code off (i :: rest)) (hM : NeverDone M)
    (stack : List Value) (env : Env) (out : Str) (polls depth : Nat) (fuel : Nat) (a : Nat) (ha : a = storedArg i) :
    loop M obj code (fuel + 1) off stack ⟨env, out, polls, depth⟩ =
      (match step M obj code.length (fun c s => loop M obj c fuel 0 [] s) i.op.toNat a (off + i.size) stack
              ⟨env, out, polls + 1, depth⟩ with
       | .cont ip' stack' st' => loop M obj code fuel ip' stack' st'
       | .halt r st' => (r, st')) := by
  subst ha
  exact exec_one M obj h fuel stack ⟨env, out, polls, depth⟩ (hM polls)

set_option linter.unusedVariables false in
theorem finish_instr {M : Machine} {obj : HostVal} {code : Bytes} {n1 ip0 ip : Nat} {stack0 stack : List Value}
    {st0 : RunSt} {env : Env} {out : Str} {polls depth : Nat} {i : Instr} {rest : List Instr}
    (h1 : ∀ fuel, loop M obj code (fuel + n1) ip0 stack0 st0 = loop M obj code fuel ip stack ⟨env, out, polls, depth⟩)
    (hc : CodeAt code ip (i :: rest)) (hM : NeverDone M) (harg : storedArg i = i.arg ∨ i.op.length = 1)
    (a : Nat) (ha : a = storedArg i) (g : Nat → Res × RunSt)
    (hstep : ∀ fuel, (match step M obj code.length (fun c s => loop M obj c fuel 0 [] s) i.op.toNat a (ip + i.size) stack
              ⟨env, out, polls + 1, depth⟩ with
       | .cont ip' stack' st' => loop M obj code fuel ip' stack' st'
       | .halt r st' => (r, st')) = g fuel) :
    ∀ fuel, loop M obj code (fuel + (1 + n1)) ip0 stack0 st0 = g fuel := by
  intro fuel
  rw [← Nat.add_assoc, h1, run_instr M obj hc hM stack env out polls depth fuel a ha]
  exact hstep fuel

mutual
  theorem normExpr_pure : ∀ (e : Expr), pureE e = true → normExpr e = e
    | .boolLit _, _ | .intLit _ _, _ | .floatLit _ _, _ | .strLit _, _ | .regexpLit _ _ _, _ | .ident _, _ => by simp [normExpr]
    | .prefix op r, h => by simp [normExpr, normExpr_pure r h]
    | .infix op l r, h => by
      simp only [pureE, Bool.and_eq_true] at h
      simp [normExpr, normExpr_pure l h.1.2, normExpr_pure r h.2]
    | .index l i, h => by
      simp only [pureE, Bool.and_eq_true] at h
      simp [normExpr, normExpr_pure l h.1, normExpr_pure i h.2]
    | .arrayLit els, h | .call _ els, h => by simp [normExpr, normExprs_pure els h]
    | .ternary c t f, h => by
      simp only [pureE, Bool.and_eq_true] at h
      simp [normExpr, normExpr_pure c h.1.1, normExpr_pure t h.1.2, normExpr_pure f h.2]
    | .hashLit ps, h => by
      simp only [pureE, Bool.and_eq_true] at h
      have hs : (normPairs ps).Pairwise (fun a b => (!(pairLt b a)) = true) := by
        have := h.2; unfold pairsSorted at this; exact of_decide_eq_true this
      simp only [normExpr]
      rw [List.mergeSort_of_pairwise hs, normPairs_pure ps h.1]
  theorem normPairs_pure : ∀ (ps : List Pair), purePs ps = true → (normPairs ps).map (·.2.2) = ps
    | [], _ => rfl
    | .mk k v :: ps, h => by
      simp only [purePs, Bool.and_eq_true] at h
      simp [normPairs, normExpr_pure k h.1.1, normExpr_pure v h.1.2, normPairs_pure ps h.2]
  theorem normExprs_pure : ∀ (es : List Expr), pureEs es = true → normExprs es = es
    | [], _ => rfl
    | e :: es, h => by
      simp only [pureEs, Bool.and_eq_true] at h
      simp [normExprs, normExpr_pure e h.1, normExprs_pure es h.2]
end

theorem newMachine_unopt (c : Compiled) (fns : List (Str × FnImpl)) (d : Nat → Bool) :
    (Api.newMachine c false fns d).main = encodeAll c.main ∧ (Api.newMachine c false fns d).consts = c.consts ∧
    (Api.newMachine c false fns d).done = d := by
  simp [Api.newMachine]

/-- the unoptimised machine (`false`) of an accepted compilation, its context never cancelled (`fun _ => false`) -/
theorem compiled_machine {prog : Program} {c : Compiled} (hc : compileProgram prog = .ok c) (fns : List (Str × FnImpl)) :
    ∃ code st, compileStmts (normStmts prog) 0 ⟨[], []⟩ = .ok (code, st) ∧
      Ctx (Api.newMachine c false fns (fun _ => false)) (Api.newMachine c false fns (fun _ => false)).main ∧
      (Api.newMachine c false fns (fun _ => false)).main = encodeAll code ∧
      (Api.newMachine c false fns (fun _ => false)).consts = st.consts := by
  obtain ⟨code, st, hcomp, rfl, hs1, hs2, _⟩ := compileProgram_ok hc
  obtain ⟨hmain, hconsts, hdone⟩ := newMachine_unopt ⟨st.consts, code, st.funcs⟩ fns (fun _ => false)
  exact ⟨code, st, hcomp, ⟨fun n => by rw [hdone], by rw [hmain, encodeAll_length]; exact hs1, by rw [hconsts]; exact hs2⟩,
    hmain, hconsts⟩

/-- **`return <expression>;` evaluates to the defined value or fails with the defined error.**
    For every expression of the fragment, accepted compilation of `return e;`, host object, environment and
    host-function table: a run of the unoptimised program (context never cancelled, enough steps) ends with
    the value - or the error - `evalE` gives, having written its output, where `evalE` defines the outcome (`hU`; it
    does for every expression without calls, `evalE_defined`). -/
theorem return_expr_correct (e : Expr) (hp : pureE e = true) (c : Compiled) (hc : compileProgram [.ret e] = .ok c)
    (fns : List (Str × FnImpl)) (obj : HostVal) (env : Env) (out : Str) (polls depth : Nat)
    (hU : (evalE (Api.newMachine c false fns (fun _ => false)) obj env e out).1 ≠ .error undefErr) :
    ∃ n k, ∀ fuel,
      run (Api.newMachine c false fns (fun _ => false)) obj (fuel + n) ⟨env, out, polls, depth⟩ =
        (match evalE (Api.newMachine c false fns (fun _ => false)) obj env e out with
         | (.ok v, o) => (.ok v, ⟨env, o, polls + k, depth⟩)
         | (.error x, o) => (.error x, ⟨env, o, polls + k, depth⟩)) := by
  obtain ⟨code, st, hcomp, ctx, hmain, hconsts⟩ := compiled_machine hc fns
  generalize Api.newMachine c false fns (fun _ => false) = M at *
  simp only [normStmts, normStmt, normExpr_pure e hp, compileStmts, compileStmt, bind_ok_eq, pure, Except.pure] at hcomp
  obtain ⟨⟨c1, st1⟩, ⟨⟨ce, st0⟩, he, h1⟩, ⟨c2, st2⟩, h2, h3⟩ := hcomp
  cases h1; cases h2; cases h3
  have hcode := hmain ▸ codeAt_encodeAll _
  simp only [List.append_nil, codeAt_append, compileExpr_size he] at hcode
  have hne : 0 < M.main.length := Nat.lt_of_lt_of_le (by simp [Instr.size, Op.length]) hcode.2.bound
  have e1 := expr_runs e hp he ctx hcode.1 ⟨[], by simp [hconsts]⟩ obj [] env out depth
  generalize evalE M obj env e out = r1 at e1 hU ⊢
  obtain ⟨x | v, o1⟩ := r1
  · simp only [Pt.ofRes, if_neg fun h : x = undefErr => hU (h ▸ rfl)] at e1
    simpa [Env.truncate] using e1.run hne polls
  · simpa [Env.truncate] using (e1.then (Runs.ret (x := true) ctx hcode.2)).run hne polls

end EvalFilter.Exec
