/-
  Lemmas about the lexer model.  No helper gives input back, and one call of the token dispatch consumes
  its first rune and never yields the end-of-input token (`Proper`).  So `nextToken` makes progress,
  `lexAll` never reaches its "stuck" branch, and the end-of-input token comes last in the stream, only.
-/
import EvalFilter.Model.Lexer

namespace EvalFilter.Lexer

theorem skipWs_length_le (r : List Char) : (skipWs r).length ≤ r.length := by
  fun_induction skipWs r
  · exact Nat.le_refl _
  · exact Nat.le_succ_of_le ‹_›
  · exact Nat.le_refl _

theorem skipLine_length_le (r : List Char) : (skipLine r).length ≤ r.length := by
  fun_induction skipLine r
  · exact Nat.le_refl _
  · exact Nat.le_refl _
  · exact Nat.le_succ_of_le ‹_›

theorem skipBlank_length_le (fuel : Nat) (r : List Char) : (skipBlank fuel r).length ≤ r.length := by
  fun_induction skipBlank fuel r
  · exact Nat.le_refl _
  next r _ t h ih =>
    calc _ ≤ _ := ih
      _ ≤ _ := skipWs_length_le _
      _ ≤ _ := skipLine_length_le _
      _ ≤ _ := h ▸ skipWs_length_le r
  · exact skipWs_length_le _

theorem spanChars_length (p : Char → Bool) (r : List Char) :
    (spanChars p r).1.length + (spanChars p r).2.length = r.length := by
  induction r with
  | nil => rfl
  | cons c cs ih =>
    simp only [spanChars]
    split
    · simp only [List.length_cons]; omega
    · exact Nat.zero_add _

theorem spanChars_rest_le {p : Char → Bool} {r a r' : List Char} (h : spanChars p r = (a, r')) :
    r'.length ≤ r.length := by
  have := spanChars_length p r
  rw [h] at this
  exact this ▸ Nat.le_add_left ..

theorem spanChars_head {p : Char → Bool} {c : Char} {cs a r : List Char} (hc : p c = true)
    (h : spanChars p (c :: cs) = (a, r)) : r.length ≤ cs.length := by
  rw [spanChars, if_pos hc] at h
  cases h
  exact spanChars_rest_le rfl

theorem readString_rest_le (delim : Char) (r : List Char) (acc : Str) :
    (readString delim r acc).2.length ≤ r.length := by
  fun_induction readString delim r acc <;> simp only [List.length_cons, List.length_nil] <;> omega

theorem readRegexp_rest_le (r : List Char) (acc : Str) : (readRegexp r acc).2.length ≤ r.length := by
  fun_induction readRegexp r acc
  case case3 h _ _ => exact Nat.le_succ_of_le (spanChars_rest_le h)
  case case4 h _ _ => exact Nat.le_succ_of_le (spanChars_rest_le h)
  all_goals simp only [List.length_cons, List.length_nil]; omega

theorem one_rest (c : Char) (cs : List Char) (ty : TokType) : (one c cs ty).2.1 = cs := rfl

theorem lookupIdentifier_ne_eof (s : Str) : lookupIdentifier s ≠ .EOF := by
  unfold lookupIdentifier
  cases h : keywords.lookup s with
  | none => nofun
  | some t =>
    obtain ⟨l1, l2, hk, _⟩ := List.lookup_eq_some_iff.mp h
    have : ∀ p ∈ keywords, p.2 ≠ .EOF := by decide
    exact this (s, t) (by rw [hk]; simp)

/-- What `nextToken` needs of the result `o` (token, remaining input, new `prev`) of lexing one token from
    `c :: cs`: the first rune is consumed, and the token is not the end-of-input token.  Every branch of the
    dispatch builds its result with `one`, `two`, `tok` on the tail (a two-rune token: `Proper (d :: cs)` with
    `cs` remaining), or a reader function, and each of those is proper. -/
structure Proper (cs : List Char) (o : LexOut) : Prop where
  rest_le : o.2.1.length ≤ cs.length
  ty_ne : o.1.ty ≠ .EOF

namespace Proper
variable {c d second : Char} {cs : List Char} {ty prev : TokType} {lit : String} {o : Token} {x y : LexOut}

theorem ite {b : Prop} [Decidable b] (hx : Proper cs x) (hy : Proper cs y) : Proper cs (if b then x else y) := by
  split <;> assumption

theorem one (h : ty ≠ .EOF) : Proper cs (one c cs ty) := ⟨Nat.le_refl _, h⟩

theorem tok (h : ty ≠ .EOF) : Proper (d :: cs) (tok ty lit, cs, prev) := ⟨Nat.le_succ _, h⟩

theorem two (h : ty ≠ .EOF) (ho : o.ty ≠ .EOF) : Proper cs (two cs second ty lit o) := by
  unfold Lexer.two
  split
  · exact .ite (.tok h) ⟨Nat.le_refl _, ho⟩
  · exact ⟨Nat.le_refl _, ho⟩

end Proper

theorem lexWord_proper (prev : TokType) (c : Char) (cs : List Char) : Proper cs (lexWord prev c cs) := by
  unfold lexWord
  split
  next hc =>
    split
    next intPart r1 h1 =>
      have h1 := spanChars_head hc h1
      split
      next d r2 =>
        split
        next hd =>
          split
          next frac r3 h3 =>
            exact ⟨Nat.le_trans (spanChars_head hd h3) (Nat.le_of_lt (Nat.lt_of_succ_lt h1)), nofun⟩
        · exact ⟨h1, nofun⟩
      · exact ⟨h1, nofun⟩
  next =>
    split
    next ident r h =>
      split
      · exact ⟨Nat.le_refl _, nofun⟩
      next hne =>
        by_cases hi : isIdentifier c = true
        · exact ⟨spanChars_head hi h, lookupIdentifier_ne_eof _⟩
        · simp only [spanChars, hi] at h
          cases h
          exact absurd rfl hne

theorem lexC_proper (prev : TokType) (c : Char) (cs : List Char) : Proper cs (lexC prev c cs) := by
  unfold lexC
  refine .ite (.one nofun) <| .ite (.one nofun) <| .ite (.two nofun nofun) <| .ite (.two nofun nofun) <|
    .ite (.two nofun nofun) <| .ite ?_ <| .ite ?_ <| .ite ⟨Nat.le_refl _, nofun⟩ (lexWord_proper ..)
  · split
    · exact .tok nofun
    · exact .tok nofun
    · exact .one nofun
  · have : (readString c cs []).2.tail.length ≤ cs.length :=
      Nat.le_trans (List.tail_sublist _).length_le (readString_rest_le c cs [])
    split
    next h => rw [h] at this; exact ⟨this, nofun⟩
    next h => rw [h] at this; exact ⟨this, nofun⟩

theorem lexB_proper (prev : TokType) (c : Char) (cs : List Char) : Proper cs (lexB prev c cs) := by
  unfold lexB
  refine .ite (.one nofun) <| .ite (.one nofun) <| .ite (.one nofun) <| .ite (.one nofun) <|
    .ite (.one nofun) <| .ite (.one nofun) <| .ite ?_ <| .ite (.ite (.two nofun nofun) ?_) <|
    .ite ?_ (lexC_proper ..)
  · split
    · exact .tok nofun
    · exact .tok nofun
    · exact .one nofun
  · have := readRegexp_rest_le cs []
    split
    next h => rw [h] at this; exact ⟨this, nofun⟩
    next h => rw [h] at this; exact ⟨this, nofun⟩
  · split
    · exact .tok nofun
    · exact .tok nofun
    · exact .one nofun

theorem lexOne_proper (prev : TokType) (c : Char) (cs : List Char) : Proper cs (lexOne prev c cs) := by
  unfold lexOne
  refine .ite (.two nofun nofun) <| .ite (.two nofun nofun) <| .ite (.two nofun nofun) <| .ite (.one nofun) <|
    .ite (.one nofun) <| .ite (.one nofun) <| .ite (.one nofun) <| .ite (.two nofun nofun) <|
    .ite ?_ (lexB_proper ..)
  split
  · exact .tok nofun
  · exact .tok nofun
  · exact .one nofun

theorem nextToken_progress (s : LexSt) (h : s.rest ≠ []) : (nextToken s).2.rest.length < s.rest.length := by
  unfold nextToken
  have hb := skipBlank_length_le (s.rest.length + 1) s.rest
  split
  · exact List.length_pos_iff.mpr h
  next c cs heq =>
    rw [heq] at hb
    exact Nat.lt_of_le_of_lt (lexOne_proper s.prev c cs).rest_le hb

/-- so the "stuck" branch of `lexAll` is dead: this is the form in which `fun_induction lexAll` asks for it -/
theorem nextToken_lt {s s' : LexSt} {t : Token} (hne : ¬s.rest.isEmpty) (h : nextToken s = (t, s')) :
    s'.rest.length < s.rest.length := by
  have := nextToken_progress s (by simpa using hne)
  rwa [h] at this

theorem nextToken_eof {s s' : LexSt} {t : Token} (h : nextToken s = (t, s')) (ht : t.ty = .EOF) :
    t = Token.eof ∧ s'.rest = [] := by
  unfold nextToken at h
  split at h
  · cases h
    exact ⟨rfl, rfl⟩
  · cases h
    exact absurd ht (lexOne_proper ..).ty_ne

theorem lexAll_length_le (s : LexSt) : (lexAll s).length ≤ s.rest.length + 1 := by
  fun_induction lexAll s
  · exact Nat.le_add_left ..
  · exact Nat.le_add_left ..
  next hlt _ ih => exact Nat.succ_le_succ (Nat.le_trans ih hlt)
  · exact absurd (nextToken_lt ‹_› ‹_›) ‹_›

theorem lexAll_shape (s : LexSt) : ∃ ts, lexAll s = ts ++ [Token.eof] ∧ ∀ t ∈ ts, t.ty ≠ .EOF := by
  fun_induction lexAll s
  · exact ⟨[], rfl, fun _ h => nomatch h⟩
  next hnt _ hc =>
    simp only [Bool.and_eq_true, beq_iff_eq] at hc
    exact ⟨[], by rw [(nextToken_eof hnt hc.1).1]; rfl, fun _ h => nomatch h⟩
  next t _ hnt _ hc ih =>
    obtain ⟨ts, h, hts⟩ := ih
    refine ⟨t :: ts, by rw [h]; rfl, fun u hu => ?_⟩
    rcases List.mem_cons.mp hu with rfl | hu
    · exact fun ht => hc (by simp [ht, (nextToken_eof hnt ht).2])
    · exact hts u hu
  · exact absurd (nextToken_lt ‹_› ‹_›) ‹_›

theorem lex_mem_before_eof (input : List Char) (t : Token) (ht : t ∈ lex input) (hne : t.ty ≠ .EOF) :
    t ∈ (lex input).takeWhile (fun t => t.ty != .EOF) := by
  unfold lex at ht ⊢
  obtain ⟨ts, h, hts⟩ := lexAll_shape ⟨input, .NONE⟩
  rw [h] at ht ⊢
  rw [List.takeWhile_append_of_pos (by intro x hx; simpa using hts x hx)]
  rcases List.mem_append.mp ht with h | h
  · exact List.mem_append_left _ h
  · cases List.mem_singleton.mp h
    exact absurd rfl hne

/-- `lexAll` on a non-empty rest, without its dead branch -/
theorem lexAll_cons (s : LexSt) (h : s.rest ≠ []) :
    lexAll s = if (nextToken s).1.ty == .EOF && (nextToken s).2.rest.isEmpty then [(nextToken s).1]
      else (nextToken s).1 :: lexAll (nextToken s).2 := by
  rw [lexAll]
  simp only [List.isEmpty_iff, h, nextToken_progress s h, ↓reduceIte, ↓reduceDIte]

theorem nextToken_mem (s : LexSt) (h : s.rest ≠ []) : (nextToken s).1 ∈ lexAll s := by
  rw [lexAll_cons s h]
  split <;> exact List.mem_cons_self

theorem lexAll_step_subset (s : LexSt) (h : s.rest ≠ []) : ∀ t ∈ lexAll (nextToken s).2, t ∈ lexAll s := by
  intro t ht
  rw [lexAll_cons s h]
  split
  next hc =>
    simp only [Bool.and_eq_true, beq_iff_eq, List.isEmpty_iff] at hc
    have h1 : (nextToken s).1 = Token.eof := (nextToken_eof rfl hc.1).1
    rw [lexAll, hc.2] at ht
    rw [h1]
    exact ht
  · exact List.mem_cons_of_mem _ ht

inductive Reach (input : List Char) : LexSt → Prop
  | start : Reach input ⟨input, .NONE⟩
  | step (s : LexSt) : Reach input s → s.rest ≠ [] → Reach input (nextToken s).2

theorem reach_subset (input : List Char) (s : LexSt) (h : Reach input s) : ∀ t ∈ lexAll s, t ∈ lex input := by
  induction h with
  | start => intro t ht; exact ht
  | step s _ hne ih => intro t ht; exact ih t (lexAll_step_subset s hne t ht)

theorem reach_token_mem (input : List Char) (s : LexSt) (h : Reach input s) (hne : s.rest ≠ []) :
    (nextToken s).1 ∈ lex input :=
  reach_subset input s h _ (nextToken_mem s hne)

theorem lexB_slash (prev : TokType) (cs : List Char) :
    lexB prev '/' cs =
      if slashDivAfter.contains prev then two cs '=' .SLASHEQUALS "/=" ⟨.SLASH, ['/']⟩
      else match readRegexp cs [] with
        | (.ok s, rest) => (⟨.REGEXP, s⟩, rest, prev)
        | (.error _, rest) => (⟨.ILLEGAL, []⟩, rest, prev) := rfl

theorem lexOne_slash (prev : TokType) (cs : List Char) : lexOne prev '/' cs = lexB prev '/' cs := rfl

theorem lexOne_quote (prev : TokType) (q : Char) (hq : q = '"' ∨ q = '\'') (cs : List Char) :
    lexOne prev q cs = match readString q cs [] with
      | (some s, rest) => (⟨.STRING, s⟩, rest.tail, .STRING)
      | (none, rest) => (⟨.ILLEGAL, []⟩, rest.tail, .ILLEGAL) := by
  rcases hq with rfl | rfl
  · rfl
  · rfl

theorem readString_plain (q c : Char) (r : List Char) (acc : Str)
    (hn : c ≠ nul) (hq : c ≠ q) (hb : c ≠ '\\') :
    readString q (c :: r) acc = readString q r (acc ++ [c]) := by
  conv => lhs; unfold readString
  rw [if_neg (by simpa using hn), if_neg (by simpa using hq), if_neg (by simpa using hb)]

theorem readString_escaped (q d : Char) (r : List Char) (acc : Str) (hqb : q ≠ '\\')
    (hd1 : d ≠ '\n') (hd2 : d ≠ nul) :
    readString q ('\\' :: d :: r) acc = readString q r (acc ++ [unescape d]) := by
  conv => lhs; unfold readString
  rw [if_neg (by decide), if_neg (by simpa using hqb.symm), if_pos (by decide)]
  dsimp only
  rw [if_neg (by simpa using hd1), if_neg (by simpa using hd2)]

theorem readString_continuation (q : Char) (r : List Char) (acc : Str) (hqb : q ≠ '\\') :
    readString q ('\\' :: '\n' :: r) acc = readString q r acc := by
  conv => lhs; unfold readString
  rw [if_neg (by decide), if_neg (by simpa using hqb.symm), if_pos (by decide)]
  rfl

theorem readString_close (q : Char) (r : List Char) (acc : Str) (hqn : q ≠ nul) :
    readString q (q :: r) acc = (some acc, q :: r) := by
  conv => lhs; unfold readString
  rw [if_neg (by simpa using hqn), if_pos (beq_self_eq_true q)]

theorem skipWs_idem (l : List Char) : skipWs (skipWs l) = skipWs l := by
  fun_induction skipWs l
  · rfl
  · assumption
  next h => rw [skipWs, if_neg h]

theorem skipLine_append (b r : List Char) (hb : ∀ c ∈ b, c ≠ '\n' ∧ c ≠ nul) :
    skipLine (b ++ '\n' :: r) = '\n' :: r := by
  induction b with
  | nil => rfl
  | cons c cs ih =>
    have ⟨h1, h2⟩ := hb c List.mem_cons_self
    rw [List.cons_append, skipLine, if_neg (by simp [h1, h2])]
    exact ih fun d hd => hb d (List.mem_cons_of_mem _ hd)

end EvalFilter.Lexer
