/-
  Two runs of the VM side by side, one instruction at a time: run states that agree up to the poll counter
  (`StEq`), machines that differ only in the bodies of their functions (`MRel`), and the congruence of `step`
  across them.  A nested run enters an instruction only through `calleeOf`.
-/
import EvalFilter.Proofs.VMFrame

namespace EvalFilter.OptSim
open EvalFilter.VM

/-- two run states that agree on everything a script can observe (variables, output, call depth), and on the
    poll counter too when `ex`.  Two machines are compared with `ex = false` (NOPs are polled too);
    `ex = true` is equality (`StEq.eq`) and turns the congruences into equations about one machine
    (`step_rb_congr`, `loop_mono`). -/
def StEq (ex : Bool) (s s' : RunSt) : Prop :=
  s.env = s'.env ∧ s.out = s'.out ∧ s.depth = s'.depth ∧ (ex = true → s.polls = s'.polls)

theorem StEq.refl (ex : Bool) (s : RunSt) : StEq ex s s := ⟨rfl, rfl, rfl, fun _ => rfl⟩
theorem StEq.symm {ex : Bool} {s s' : RunSt} (h : StEq ex s s') : StEq ex s' s :=
  ⟨h.1.symm, h.2.1.symm, h.2.2.1.symm, fun e => (h.2.2.2 e).symm⟩
theorem StEq.symm' {s s' : RunSt} (h : StEq false s s') : StEq false s' s := h.symm
theorem StEq.trans {ex : Bool} {a b c : RunSt} (h : StEq ex a b) (h' : StEq ex b c) : StEq ex a c :=
  ⟨h.1.trans h'.1, h.2.1.trans h'.2.1, h.2.2.1.trans h'.2.2.1, fun e => (h.2.2.2 e).trans (h'.2.2.2 e)⟩
theorem StEq.eq {s s' : RunSt} (h : StEq true s s') : s = s' := by
  obtain ⟨e, o, p, d⟩ := s
  obtain ⟨e', o', p', d'⟩ := s'
  obtain ⟨h1, h2, h3, h4⟩ := h
  simp only at h1 h2 h3 h4
  simp [h1, h2, h3, h4 trivial]

theorem StEq.mk' {ex : Bool} {e : Env} {o : Str} {p p' d : Nat} (h : ex = true → p = p') :
    StEq ex ⟨e, o, p, d⟩ ⟨e, o, p', d⟩ := ⟨rfl, rfl, rfl, h⟩

theorem StEq.polls {s s' : RunSt} (h : StEq false s s') (a b : Nat) :
    StEq false { s with polls := a } { s' with polls := b } :=
  ⟨h.1, h.2.1, h.2.2.1, fun e => by cases e⟩

def OutEq (ex : Bool) (x x' : Res × RunSt) : Prop := x.1 = x'.1 ∧ StEq ex x.2 x'.2

theorem OutEq.symm {ex : Bool} {a b : Res × RunSt} (h : OutEq ex a b) : OutEq ex b a := ⟨h.1.symm, h.2.symm⟩
theorem OutEq.trans {ex : Bool} {a b c : Res × RunSt} (h : OutEq ex a b) (h' : OutEq ex b c) : OutEq ex a c :=
  ⟨h.1.trans h'.1, h.2.trans h'.2⟩

/-- both halt with the same result, or both continue with the same stack, the first at `n` and the second at `n'` (the
    pointers the caller expects) -/
def StepRel (ex : Bool) (n n' : Nat) : StepOut → StepOut → Prop
  | .cont i s t, .cont i' s' t' => i = n ∧ i' = n' ∧ s = s' ∧ StEq ex t t'
  | .halt r t, .halt r' t' => r = r' ∧ StEq ex t t'
  | _, _ => False

theorem StepRel.eq {n : Nat} : ∀ {a b : StepOut}, StepRel true n n a b → a = b
  | .cont .., .cont .., ⟨hi, hi', hs, ht⟩ => by rw [hi, hi', hs, ht.eq]
  | .halt .., .halt .., ⟨hr, ht⟩ => by rw [hr, ht.eq]

/-- `user`: the same names with the same parameters, bodies related by `B` and empty together (`invoke` refuses an
    empty body before it runs it) -/
structure MRel (B : Bytes → Bytes → Prop) (M M' : Machine) : Prop where
  consts : M'.consts = M.consts
  fns : M'.fns = M.fns
  done : M'.done = M.done
  user : ∀ name, (lookupUser M name = none ∧ lookupUser M' name = none) ∨
    ∃ u u', lookupUser M name = some u ∧ lookupUser M' name = some u' ∧ u'.params = u.params ∧
      B u.code u'.code ∧ u'.code.isEmpty = u.code.isEmpty

theorem MRel.refl (M : Machine) : MRel (fun _ _ => True) M M :=
  ⟨rfl, rfl, rfl, fun name => by
    cases h : lookupUser M name
    · exact .inl ⟨rfl, rfl⟩
    · exact .inr ⟨_, _, rfl, rfl, rfl, trivial, rfl⟩⟩

theorem MRel.mono {B B' : Bytes → Bytes → Prop} {M M' : Machine} (hB : ∀ c c', B c c' → B' c c') (h : MRel B M M') :
    MRel B' M M' :=
  ⟨h.consts, h.fns, h.done, fun name => (h.user name).imp id
    fun ⟨u, u', h1, h2, hp, hb, he⟩ => ⟨u, u', h1, h2, hp, hB _ _ hb, he⟩⟩

theorem MRel.symm {B : Bytes → Bytes → Prop} {M M' : Machine} (h : MRel B M M') : MRel (fun c' c => B c c') M' M :=
  ⟨h.consts.symm, h.fns.symm, h.done.symm, fun name => (h.user name).imp And.symm
    fun ⟨u, u', h1, h2, hp, hb, he⟩ => ⟨u', u, h2, h1, hp.symm, hb, he.symm⟩⟩

theorem binop_congr {M M' : Machine} (h : M'.fns = M.fns) (op : Op) (l r : Value) : binop M' op l r = binop M op l r := by
  unfold binop callMatch lookupFn
  rw [h]

theorem callMatch_congr {M M' : Machine} (h : M'.fns = M.fns) (l r : Value) : callMatch M' l r = callMatch M l r := by
  unfold callMatch lookupFn
  rw [h]

theorem step_congr_plain (ex : Bool) {B : Bytes → Bytes → Prop} {M M' : Machine} (hM : MRel B M M') (obj : HostVal)
    (len len' : Nat) (rb rb' : Bytes → RunSt → Res × RunSt) (op : Op)
    (hop : op ≠ .call ∧ op ≠ .jump ∧ op ≠ .jumpIfFalse) (arg next next' : Nat) (stack : List Value)
    (st st' : RunSt) (hst : StEq ex st st') :
    StepRel ex next next' (step M obj len rb op.toNat arg next stack st)
      (step M' obj len' rb' op.toNat arg next' stack st') := by
  obtain ⟨env, out, polls, depth⟩ := st
  obtain ⟨env', out', polls', depth'⟩ := st'
  obtain ⟨h1, h2, h3, h4⟩ := hst
  simp only at h1 h2 h3 h4
  subst h1 h2 h3
  unfold step
  rw [WF.Op.ofNat_toNat]
  -- both sides take the same branches: the binary operators at once, as `step` takes them
  by_cases hb : isBinary op = true
  · simp only [hb, ↓reduceIte, binop_congr hM.fns]
    repeat' split
    all_goals first | exact ⟨rfl, StEq.mk' h4⟩ | exact ⟨rfl, rfl, rfl, StEq.mk' h4⟩
  cases op <;> simp only [isBinary, not_true_eq_false] at hb <;>
    simp only [isBinary, Bool.false_eq_true, ↓reduceIte, hM.consts, callMatch_congr hM.fns]
  case call | jump | jumpIfFalse => simp at hop
  all_goals repeat' split
  all_goals first | exact ⟨rfl, StEq.mk' h4⟩ | exact ⟨rfl, rfl, rfl, StEq.mk' h4⟩

def calleeSt (uf : UserFn) (args : List Value) (st : RunSt) : RunSt :=
  { st with env := (uf.params.zip args).foldl (fun e (p : Str × Value) => e.declare p.1 p.2) st.env.addScope,
            depth := st.depth + 1 }

/-- the body (and entry state) that the instruction about to run hands to the nested run, if any -/
def calleeOf (M : Machine) (op : Op) (arg : Nat) (stack : List Value) (st : RunSt) : Option (Bytes × RunSt) :=
  if op = .call then
    match stack with
    | fname :: rest0 =>
      match popN arg rest0 with
      | none => none
      | some (args, _) =>
        match lookupFn M fname.inspect with
        | some _ => none
        | none =>
          match lookupUser M fname.inspect with
          | none => none
          | some uf =>
            if st.depth ≥ maxCallDepth then none
            else if uf.params.length != args.length then none
            else if uf.code.isEmpty then none
            else some (uf.code, calleeSt uf args st)
    | [] => none
  else none

theorem invoke_eq (rb : Bytes → RunSt → Res × RunSt) (uf : UserFn) (args : List Value) (st : RunSt) :
    invoke rb uf args st =
      if st.depth ≥ maxCallDepth then (err "callDepth", st)
      else if uf.params.length != args.length then
        (err "argCount", { st with env := st.env.addScope })
      else if uf.code.isEmpty then
        (err "emptyProgram", { st with env := (uf.params.zip args).foldl (fun e (p : Str × Value) => e.declare p.1 p.2) st.env.addScope })
      else
        let r := finish ((uf.params.zip args).foldl (fun e (p : Str × Value) => e.declare p.1 p.2) st.env.addScope).scopes.length
                  (rb uf.code (calleeSt uf args st))
        (r.1, { r.2 with depth := st.depth }) := by
  unfold invoke calleeSt
  simp only []

theorem calleeSt_congr {ex : Bool} {uf uf' : UserFn} (hp : uf'.params = uf.params) (args : List Value) {st st' : RunSt}
    (h : StEq ex st st') : StEq ex (calleeSt uf args st) (calleeSt uf' args st') := by
  obtain ⟨h1, h2, h3, h4⟩ := h
  unfold calleeSt
  refine ⟨?_, h2, ?_, h4⟩
  · simp only [hp, h1]
  · simp only [h3]

/-- **The anatomy of OpCall in two related machines.**  Either no body is run on either side, and the
    outcomes are related whatever the nested runs; or both sides run bodies related by `B` from related
    states, and the outcomes are related as soon as those of the nested runs are - a nested run that is out
    of fuel leaving the instruction out of fuel. -/
theorem call_cases (ex : Bool) {B : Bytes → Bytes → Prop} {M M' : Machine} (hM : MRel B M M') (obj : HostVal)
    (len len' arg next next' : Nat) (stack : List Value) {st st' : RunSt} (hst : StEq ex st st') :
    (calleeOf M .call arg stack st = none ∧ calleeOf M' .call arg stack st' = none ∧
      ∀ rb rb', StepRel ex next next' (step M obj len rb Op.call.toNat arg next stack st)
        (step M' obj len' rb' Op.call.toNat arg next' stack st')) ∨
    ∃ c s c' s', calleeOf M .call arg stack st = some (c, s) ∧ calleeOf M' .call arg stack st' = some (c', s') ∧
      B c c' ∧ StEq ex s s' ∧
      (∀ rb rb', OutEq ex (rb c s) (rb' c' s') →
        StepRel ex next next' (step M obj len rb Op.call.toNat arg next stack st)
          (step M' obj len' rb' Op.call.toNat arg next' stack st')) ∧
      ∀ rb, (rb c s).1 = .error .outOfFuel →
        ∃ t, step M obj len rb Op.call.toNat arg next stack st = .halt (.error .outOfFuel) t := by
  have hfn : ∀ name, lookupFn M' name = lookupFn M name := fun _ => by unfold lookupFn; rw [hM.fns]
  obtain ⟨env, out, polls, depth⟩ := st
  obtain ⟨env', out', polls', depth'⟩ := st'
  obtain ⟨q1, q2, q3, q4⟩ := hst
  simp only at q1 q2 q3 q4
  subst q1 q2 q3
  unfold calleeOf step
  simp only [WF.Op.ofNat_toNat, isBinary, Bool.false_eq_true, ↓reduceIte, hfn]
  cases stack with
  | nil => exact .inl ⟨rfl, rfl, fun _ _ => ⟨rfl, StEq.mk' q4⟩⟩
  | cons fname rest0 =>
    simp only []
    cases hp : popN arg rest0 with
    | none => exact .inl ⟨rfl, rfl, fun _ _ => ⟨rfl, StEq.mk' q4⟩⟩
    | some p =>
      obtain ⟨args, rest⟩ := p
      simp only []
      cases hf : lookupFn M fname.inspect with
      | some f =>
        refine .inl ⟨rfl, rfl, fun _ _ => ?_⟩
        simp only []
        cases hr : (callImpl fname.inspect f args).res with
        | panic | unsupported => exact ⟨rfl, StEq.mk' q4⟩
        | val v => cases v <;> first | exact ⟨rfl, StEq.mk' q4⟩ | exact ⟨rfl, rfl, rfl, StEq.mk' q4⟩
      | none =>
        simp only []
        rcases hM.user fname.inspect with ⟨h1, h2⟩ | ⟨u, u', h1, h2, hpar, hB, hemp⟩
        · rw [h1, h2]; exact .inl ⟨rfl, rfl, fun _ _ => ⟨rfl, StEq.mk' q4⟩⟩
        · rw [h1, h2]
          simp only [invoke_eq, hpar, hemp]
          by_cases g1 : depth ≥ maxCallDepth
          · simp only [g1, ↓reduceIte]
            exact .inl ⟨trivial, trivial, fun _ _ => ⟨rfl, StEq.mk' q4⟩⟩
          · by_cases g2 : (u.params.length != args.length) = true
            · simp only [g1, g2, ↓reduceIte]
              exact .inl ⟨trivial, trivial, fun _ _ => ⟨rfl, StEq.mk' q4⟩⟩
            · by_cases g3 : u.code.isEmpty = true
              · simp only [g1, g2, g3, ↓reduceIte, Bool.false_eq_true]
                exact .inl ⟨trivial, trivial, fun _ _ => ⟨rfl, StEq.mk' q4⟩⟩
              · simp only [g1, g2, g3, ↓reduceIte, Bool.false_eq_true, finish]
                refine .inr ⟨_, _, _, _, rfl, rfl, hB, calleeSt_congr hpar args ⟨rfl, rfl, rfl, q4⟩, fun rb rb' hrb => ?_,
                  fun rb ho => by simp only [ho]; exact ⟨_, rfl⟩⟩
                revert hrb
                generalize rb u.code _ = x
                generalize rb' u'.code _ = x'
                obtain ⟨r, env1, out1, p1, d1⟩ := x
                obtain ⟨r', env1', out1', p1', d1'⟩ := x'
                rintro ⟨e1, e3, e4, _, e6⟩
                simp only at e1 e3 e4 e6
                subst e1 e3 e4
                cases r with
                | error e => exact ⟨rfl, StEq.mk' e6⟩
                | ok v =>
                  simp only []
                  cases (env1.truncate _).removeScope with
                  | none => exact ⟨rfl, StEq.mk' e6⟩
                  | some env2 => exact ⟨rfl, rfl, rfl, StEq.mk' e6⟩

theorem step_congr_call (ex : Bool) {B : Bytes → Bytes → Prop} {M M' : Machine} (hM : MRel B M M') (obj : HostVal)
    (len len' : Nat) (rb rb' : Bytes → RunSt → Res × RunSt) (arg next next' : Nat) (stack : List Value)
    (st st' : RunSt) (hst : StEq ex st st')
    (hrb : ∀ c s c' s', calleeOf M .call arg stack st = some (c, s) → calleeOf M' .call arg stack st' = some (c', s') →
      OutEq ex (rb c s) (rb' c' s')) :
    StepRel ex next next' (step M obj len rb Op.call.toNat arg next stack st)
      (step M' obj len' rb' Op.call.toNat arg next' stack st') := by
  rcases call_cases ex hM obj len len' arg next next' stack hst with ⟨_, _, h⟩ | ⟨c, s, c', s', h1, h2, _, _, h, _⟩
  · exact h rb rb'
  · exact h rb rb' (hrb c s c' s' h1 h2)

/-- an instruction consults the nested run only at `calleeOf`: `step_congr_call` for one machine and equal states -/
theorem step_rb_congr (M : Machine) (obj : HostVal) (len : Nat) (rb rb2 : Bytes → RunSt → Res × RunSt)
    (op : Op) (arg next : Nat) (stack : List Value) (st : RunSt)
    (h : ∀ c s, calleeOf M op arg stack st = some (c, s) → rb c s = rb2 c s) :
    step M obj len rb op.toNat arg next stack st = step M obj len rb2 op.toNat arg next stack st := by
  by_cases hop : op = .call
  · subst hop
    refine (step_congr_call true (MRel.refl M) obj len len rb rb2 arg next next stack st st (StEq.refl _ _) ?_).eq
    intro c s c' s' hc hc'
    rw [hc] at hc'
    cases hc'
    rw [h c s hc]
    exact ⟨rfl, StEq.refl _ _⟩
  · unfold step
    simp only [WF.Op.ofNat_toNat]
    cases op <;> first | rfl | exact absurd rfl hop

theorem step_callee_oof (M : Machine) (obj : HostVal) (len : Nat) (rb : Bytes → RunSt → Res × RunSt)
    (op : Op) (arg next : Nat) (stack : List Value) (st : RunSt) {c : Bytes} {s : RunSt}
    (hc : calleeOf M op arg stack st = some (c, s)) (ho : (rb c s).1 = .error .outOfFuel) :
    ∃ st', step M obj len rb op.toNat arg next stack st = .halt (.error .outOfFuel) st' := by
  by_cases hop : op = .call
  · subst hop
    rcases call_cases true (MRel.refl M) obj len len arg next next stack (StEq.refl true st) with
      ⟨h1, _⟩ | ⟨_, _, _, _, h1, _, _, _, _, h⟩
    · rw [h1] at hc; cases hc
    · rw [h1] at hc; cases hc
      exact h rb ho
  · simp [calleeOf, hop] at hc

/-- One instruction other than a jump, nested run included.  `rb` is the first machine's nested run, `rb' F`
    the second's with fuel `F`: if nested runs that end are matched (`hsim`), the instruction's outcome is
    matched once the second machine's nested run has fuel enough (`f2` or more). -/
theorem step_sim_nested {B : Bytes → Bytes → Prop} {M M' : Machine} (hM : MRel B M M') (obj : HostVal) (len len' : Nat)
    (rb : Bytes → RunSt → Res × RunSt) (rb' : Nat → Bytes → RunSt → Res × RunSt)
    (hmono : ∀ f c s, (rb' f c s).1 ≠ .error .outOfFuel → ∀ F, f ≤ F → rb' F c s = rb' f c s)
    (hsim : ∀ c c' s s', B c c' → StEq false s s' → (rb c s).1 ≠ .error .outOfFuel → ∃ f, OutEq false (rb c s) (rb' f c' s'))
    (op : Op) (hop : op ≠ .jump ∧ op ≠ .jumpIfFalse) (arg nx nx' : Nat) (stack : List Value) (st st' : RunSt)
    (hst : StEq false st st') (hno : ∀ s, step M obj len rb op.toNat arg nx stack st ≠ .halt (.error .outOfFuel) s) :
    ∃ f2 so', StepRel false nx nx' (step M obj len rb op.toNat arg nx stack st) so' ∧
      ∀ F, f2 ≤ F → step M' obj len' (rb' F) op.toNat arg nx' stack st' = so' := by
  by_cases hcall : op = .call
  · subst hcall
    rcases call_cases false hM obj len len' arg nx nx' stack hst with
      ⟨_, h2, hrel⟩ | ⟨c2, s2, c2', s2', _, h2, hB, hs2, hrel, hoof⟩
    · exact ⟨0, _, hrel _ _, fun F _ => step_rb_congr M' obj len' _ (rb' 0) .call arg nx' stack st'
        fun c s hc => by rw [h2] at hc; cases hc⟩
    · have hr2 : (rb c2 s2).1 ≠ .error .outOfFuel := fun ho =>
        let ⟨s, hs⟩ := hoof rb ho
        hno s hs
      obtain ⟨f2, ho⟩ := hsim c2 c2' s2 s2' hB hs2 hr2
      refine ⟨f2, _, hrel _ _ ho, fun F hF => step_rb_congr M' obj len' _ (rb' f2) .call arg nx' stack st' fun c s hc => ?_⟩
      rw [h2] at hc; cases hc
      exact hmono f2 c2' s2' (by rw [← ho.1]; exact hr2) F hF
  · exact ⟨0, _, step_congr_plain false hM obj len len' _ _ op ⟨hcall, hop.1, hop.2⟩ arg nx nx' stack st st' hst,
      fun F _ => step_rb_congr M' obj len' _ (rb' 0) op arg nx' stack st' fun c s hc => by simp [calleeOf, hcall] at hc⟩

end EvalFilter.OptSim
