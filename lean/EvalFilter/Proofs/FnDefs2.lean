/-
  User-defined functions: the table the compiler ends up with is the script's definitions in the compiler's
  order - the invariant `Inv` carried through every statement form (`inv_Ss`) - and a compiled body ends in
  OpReturn only when its last effective statement is a `return`, so that the compiler's "append void; return
  unless the code already ends in return" is right (`endsRet_never_normal`).
-/
import EvalFilter.Proofs.FnDefs

namespace EvalFilter.Exec
open EvalFilter.VM EvalFilter.Compiler

theorem endsRet_nil : endsRet [] = false := rfl

theorem endsRet_append (a b : List Instr) : endsRet (a ++ b) = if b = [] then endsRet a else endsRet b := by
  cases b with
  | nil => simp
  | cons i is =>
    unfold endsRet
    rw [List.getLast?_append, List.getLast?_cons]
    rfl

theorem endsRet_append_cons (a : List Instr) (i : Instr) (b : List Instr) : endsRet (a ++ i :: b) = endsRet (i :: b) := by
  simp [endsRet_append]

theorem stmtE_not_endsRet (e : Expr) (base : Nat) (st : CState) (r : List Instr × CState) (hs : stmtE e = true)
    (h : compileExpr e base st = .ok r) : endsRet r.1 = false := by
  cases e
  -- the `else` is split before `compileExpr` is unfolded: what `simp` makes of the unfolding under the
  -- undetermined `match alt` is a proof the kernel rejects
  case ifE c cons alt =>
    cases alt <;> simp only [compileExpr, bind_ok_eq, pure, Except.pure, Except.ok.injEq] at h
    · obtain ⟨_, _, _, _, rfl⟩ := h; exact endsRet_append_cons ..
    · obtain ⟨_, _, _, _, _, _, rfl⟩ := h; exact endsRet_append_cons ..
  all_goals simp only [compileExpr, bind_ok_eq, pure, Except.pure, Except.ok.injEq] at h
  case funcDef => obtain ⟨_, _, rfl⟩ := h; rfl
  case localE => obtain rfl := h; rfl
  case assign | call => obtain ⟨_, _, rfl⟩ := h; exact endsRet_append_cons ..
  case whileE | foreachE => obtain ⟨_, _, _, _, rfl⟩ := h; exact endsRet_append_cons ..
  case switchE => obtain ⟨_, _, _, _, _, _, rfl⟩ := h; exact endsRet_append_cons ..
  case «infix» op l r' =>
    cases l <;> simp only [stmtE, Bool.and_eq_true, Bool.false_eq_true] at hs
    obtain ⟨_, _, _, _, h⟩ := h
    simp only [hs.1, ↓reduceIte] at h
    split at h <;> cases h
    exact endsRet_append_cons ..
  all_goals simp [stmtE] at hs

theorem execS_ret_not_normal (M : Machine) (F : FnTable) (obj : HostVal) (depth f : Nat) (e : Expr) (env : Env) (out : Str)
    (e' : Env) (o' : Str) : execS M F obj depth f (.ret e) env out ≠ .normal e' o' := by
  cases f with
  | zero => simp [execS]
  | succ f =>
    by_cases hc : ∃ fn args, e = .call fn args
    · obtain ⟨fn, args, rfl⟩ := hc
      simp only [execS]
      split <;> simp
    · rw [execS_ret depth f e env out (fun fn args he => hc ⟨fn, args, he⟩)]
      split
      · simp only [failE]; split <;> simp
      · simp

/-- **A body whose code ends in OpReturn never falls off its end.** -/
theorem endsRet_never_normal (M : Machine) (F : FnTable) (obj : HostVal) :
    ∀ (ss : List Stmt) (base : Nat) (st : CState) (r : List Instr × CState), pureSs ss = true →
      compileStmts ss base st = .ok r → endsRet r.1 = true →
      ∀ depth f env out e' o', execSs M F obj depth f ss env out ≠ .normal e' o'
  | [], base, st, r, _, h, he => by
    simp only [compileStmts, pure, Except.pure] at h; cases h; cases he
  | s :: rest, base, st, r, hs, h, he => by
    intro depth f env out e' o'
    cases f with
    | zero => simp [execSs]
    | succ f =>
      by_cases hpair : IsPair s rest
      · -- `e op;` followed by the rest: the pair's code ends in OpInc / OpDec, so the return is further on
        -- (matched, not substituted: the recursion on the tail of the pair stays structural)
        match s, rest, hpair with
        | _, _, ⟨e, n, op, rest', rfl, rfl⟩ =>
          simp only [pureSs, Bool.and_eq_true] at hs
          simp only [compileStmts, compileStmt, bind_ok_eq, pure, Except.pure] at h
          obtain ⟨⟨c, st1⟩, h1, ⟨cs, st2⟩, ⟨⟨ci, sti⟩, hi, ⟨cr, str⟩, hr, hcs⟩, h3⟩ := h
          cases h3; cases hcs; cases compile_postfix hs.1.1 hi
          simp only [endsRet_append, List.cons_ne_nil, List.append_eq_nil_iff, false_and, ↓reduceIte] at he
          split at he
          · simp only [endsRet, List.getLast?_singleton, withConst_op] at he
            split at he <;> cases he
          · have ih := endsRet_never_normal M F obj rest' _ _ _ hs.2 hr he
            simp only [execSs]
            split
            · simp only [failE]; split <;> simp
            · split
              · simp
              · exact ih _ _ _ _ _ _
      · rw [pureSs_other s rest hpair, Bool.and_eq_true] at hs
        simp only [compileStmts, bind_ok_eq, pure, Except.pure] at h
        obtain ⟨⟨c, st1⟩, h1, ⟨cs, st2⟩, h2, h3⟩ := h
        cases h3
        rw [execSs_other M F obj depth f s rest env out hpair]
        simp only [endsRet_append] at he
        cases hx : execS M F obj depth f s env out with
        | normal a b =>
          split at he
          · -- everything after `s` is function definitions: `s` itself is the `return`
            cases s with
            | expr e => rw [stmtE_not_endsRet e base st _ hs.1 h1] at he; cases he
            | ret e => exact absurd hx (execS_ret_not_normal M F obj depth f e env out a b)
          · exact endsRet_never_normal M F obj rest _ _ _ hs.2 h2 he depth f a b e' o'
        | _ => simp

theorem find_setFunc (fs : List FnDef) (f : FnDef) (name : Str) :
    (setFunc fs f).find? (fun g => g.name == name) =
      if f.name == name then some f else fs.find? (fun g => g.name == name) := by
  induction fs with
  | nil => simp [setFunc]
  | cons g gs ih => grind [setFunc]

theorem nodup_setFunc (fs : List FnDef) (f : FnDef) (h : (fs.map (·.name)).Nodup) :
    ((setFunc fs f).map (·.name)).Nodup := by
  induction fs with
  | nil => simp [setFunc]
  | cons g gs ih =>
    simp only [setFunc]
    split
    · simp_all
    · simp only [List.map_cons, List.nodup_cons, List.mem_map, not_exists, not_and] at h ⊢
      exact ⟨fun x hx => (mem_setFunc hx).elim (by grind) (h.1 x), ih h.2⟩

theorem find_reverse_of_nodup {α : Type} (l : List α) (key : α → Str) (name : Str) (h : (l.map key).Nodup) :
    l.reverse.find? (fun g => key g == name) = l.find? (fun g => key g == name) := by
  induction l with
  | nil => rfl
  | cons g gs ih =>
    simp only [List.map_cons, List.nodup_cons] at h
    simp only [List.reverse_cons, List.find?_append, ih h.2, List.find?_cons, List.find?_nil]
    grind

theorem FnTable.find_snoc (T : FnTable) (sf : SFn) (name : Str) :
    FnTable.find (T ++ [sf]) name = if sf.name == name then some sf else T.find name := by
  simp [FnTable.find, List.find?_cons]
  split <;> simp_all

structure Inv (fs : List FnDef) (T : FnTable) (consts : List Value) : Prop where
  nodup : (fs.map (·.name)).Nodup
  missing : ∀ name, T.find name = none → fs.find? (fun g => g.name == name) = none
  found : ∀ name sf, T.find name = some sf → ∃ fd cst r, fs.find? (fun g => g.name == name) = some fd ∧
      fd.params = sf.params ∧ pureSs sf.body = true ∧ compileStmts sf.body 0 cst = .ok r ∧
      fd.code = fnCode r.1 ∧ ∃ ex, consts = r.2.consts ++ ex

theorem Inv.nil : Inv [] [] [] :=
  ⟨by simp, fun _ _ => rfl, fun _ _ h => by simp [FnTable.find] at h⟩

theorem Inv.survives : Survives (fun fs c T => Inv fs T c) where
  ext ex h := ⟨h.nodup, h.missing, fun name sf hf => by
    obtain ⟨fd, cst, r, h1, h2, h3, h4, h5, h6⟩ := h.found name sf hf
    exact ⟨fd, cst, r, h1, h2, h3, h4, h5, pool_trans ⟨ex, rfl⟩ h6⟩⟩
  set n ps b cst r hb hcomp h := by
    refine ⟨nodup_setFunc _ _ h.nodup, ?_, ?_⟩
    · intro name hf
      rw [FnTable.find_snoc] at hf
      rw [find_setFunc]
      by_cases hn : (n == name) = true
      · simp [hn] at hf
      · simp only [hn, Bool.false_eq_true, ↓reduceIte] at hf ⊢
        exact h.missing name hf
    · intro name sf hf
      rw [FnTable.find_snoc] at hf
      rw [find_setFunc]
      by_cases hn : (n == name) = true
      · simp only [hn, ↓reduceIte, Option.some.injEq] at hf ⊢
        subst hf
        exact ⟨_, cst, r, rfl, rfl, hb, hcomp, rfl, ⟨[], by simp⟩⟩
      · simp only [hn, Bool.false_eq_true, ↓reduceIte] at hf ⊢
        exact h.found name sf hf

/- `evolve_*` at `Inv`; `fnOK_of_compile_all` needs `inv_Ss` only. -/
theorem inv_E : ∀ (e : Expr) (base : Nat) (st : CState) (r : List Instr × CState) (T : FnTable), stmtE e = true →
    compileExpr e base st = .ok r → Inv st.funcs T st.consts → Inv r.2.funcs (T ++ dE e) r.2.consts :=
  evolve_E Inv.survives
theorem inv_S : ∀ (s : Stmt) (base : Nat) (st : CState) (r : List Instr × CState) (T : FnTable), pureS s = true →
    compileStmt s base st = .ok r → Inv st.funcs T st.consts → Inv r.2.funcs (T ++ dS s) r.2.consts :=
  evolve_S Inv.survives
theorem inv_Ss : ∀ (ss : List Stmt) (base : Nat) (st : CState) (r : List Instr × CState) (T : FnTable), pureSs ss = true →
    compileStmts ss base st = .ok r → Inv st.funcs T st.consts → Inv r.2.funcs (T ++ dSs ss) r.2.consts :=
  evolve_Ss Inv.survives
theorem inv_Arms (cv : Nat → CState → CM (List Instr × CState)) (vsize : Nat)
    (hcv : ∀ b s r T, cv b s = .ok r → Inv s.funcs T s.consts → Inv r.2.funcs T r.2.consts) :
    ∀ (cs : List Case) (base endPos : Nat) (st : CState) (r : List Instr × CState) (T : FnTable), pureCases cs = true →
    compileArms cv vsize cs base endPos st = .ok r → Inv st.funcs T st.consts → Inv r.2.funcs (T ++ dArms cs) r.2.consts :=
  evolve_Arms Inv.survives cv vsize hcv
theorem inv_Defaults : ∀ (cs : List Case) (base : Nat) (st : CState) (r : List Instr × CState) (T : FnTable), pureCases cs = true →
    compileDefaults cs base st = .ok r → Inv st.funcs T st.consts → Inv r.2.funcs (T ++ dDefaults cs) r.2.consts :=
  evolve_Defaults Inv.survives

theorem lookupUser_newMachine (c : Compiled) (fns : List (Str × FnImpl)) (d : Nat → Bool) (name : Str)
    (hnd : (c.funcs.map (·.name)).Nodup) :
    lookupUser (Api.newMachine c false fns d) name =
      (c.funcs.find? (fun g => g.name == name)).map (fun f => ⟨f.name, f.params, encodeAll f.code⟩) := by
  have hf : (Api.newMachine c false fns d).funcs = c.funcs.map (fun f => (⟨f.name, f.params, encodeAll f.code⟩ : UserFn)) := by
    simp [Api.newMachine]
  unfold lookupUser
  rw [hf, find_reverse_of_nodup _ UserFn.name name (by rw [List.map_map]; exact hnd), List.find?_map]
  rfl

/-- all function definitions of a script, wherever they stand, in the order the compiler registers them -/
abbrev allDefs (prog : Program) : FnTable := dSs prog

/-- **The machine's functions are the script's functions, wherever they are defined** - at top level, inside
    blocks, inside other functions' bodies: each name is bound to the code compiled from the body of its LAST
    definition in the compiler's order; no other name is bound. -/
theorem fnOK_of_compile_all (prog : Program) (hp : pureSs prog = true) (c : Compiled)
    (hc : compileProgram prog = .ok c) (fns : List (Str × FnImpl)) (obj : HostVal) :
    FnOK (Api.newMachine c false fns (fun _ => false)) (allDefs prog) obj := by
  obtain ⟨code, st, hcomp, rfl, _, _, hs3⟩ := compileProgram_ok hc
  rw [normStmts_pure prog hp] at hcomp
  have hinv := inv_Ss prog 0 ⟨[], []⟩ (code, st) [] hp hcomp Inv.nil
  obtain ⟨_, hconsts, _⟩ := newMachine_unopt ⟨st.consts, code, st.funcs⟩ fns (fun _ => false)
  refine ⟨?_, ?_⟩
  · intro name hf
    rw [lookupUser_newMachine _ _ _ _ hinv.nodup, hinv.missing name hf]; rfl
  · intro name sf hf
    obtain ⟨fd, cst, r, h1, h2, h3, h4, h5, h6⟩ := hinv.found name sf hf
    refine ⟨⟨fd.name, fd.params, encodeAll fd.code⟩, cst, r, ?_, h2, h3, h4, ?_, ?_, ?_, ?_⟩
    · rw [lookupUser_newMachine _ _ _ _ hinv.nodup, h1]; rfl
    · simp only [h5]
    · rw [hconsts]; exact h6
    · simp only [encodeAll_length]
      exact hs3 fd (List.mem_of_find?_eq_some h1)
    · intro he
      exact endsRet_never_normal _ _ obj sf.body 0 cst r h3 h4 he

/-- function definitions only at top level (none inside a block or a function body) -/
def topNd : List Stmt → Bool
  | [] => true
  | .expr (.funcDef _ _ b) :: ss => ndSs b && topNd ss
  | s :: ss => ndS s && topNd ss

def defsOf : List Stmt → FnTable
  | [] => []
  | .expr (.funcDef n ps b) :: ss => ⟨n, ps, b⟩ :: defsOf ss
  | _ :: ss => defsOf ss

theorem allDefs_of_topNd : ∀ (ss : List Stmt), topNd ss = true → allDefs ss = defsOf ss
  | [], _ => rfl
  | s :: ss, h => by
    have ih := allDefs_of_topNd ss
    cases s with
    | ret e => simp only [topNd, Bool.and_eq_true] at h; simp [dSs, dS, defsOf, ih h.2]
    | expr e =>
      cases e with
      | funcDef n ps b =>
        simp only [topNd, Bool.and_eq_true] at h; simp [dSs, dS, dE, defsOf, nd_dSs b h.1, ih h.2]
      | _ => simp only [topNd, Bool.and_eq_true] at h; simp [dSs, defsOf, nd_dS _ h.1, ih h.2]

/-- `fnOK_of_compile_all` where all function definitions are at top level, so that `allDefs` is `defsOf`; a
    statement of record: C02 / C06 use `fnOK_of_compile_all`. -/
theorem fnOK_of_compile (prog : Program) (hp : pureSs prog = true) (hn : topNd prog = true) (c : Compiled)
    (hc : compileProgram prog = .ok c) (fns : List (Str × FnImpl)) (obj : HostVal) :
    FnOK (Api.newMachine c false fns (fun _ => false)) (defsOf prog) obj :=
  allDefs_of_topNd prog hn ▸ fnOK_of_compile_all prog hp c hc fns obj

end EvalFilter.Exec
