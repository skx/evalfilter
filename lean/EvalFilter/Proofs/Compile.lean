/-
  What every compile function guarantees, for every tree, offset and compiler state (`Emits`): the code has
  exactly the size `Expr.size` predicts - the compiler model computes its jump targets from it -, every jump
  lands on an instruction start of the same body, constant references are in range and every registered
  function body is closed, well-referenced and ends in a return.  One mutual structural induction over the AST.
-/
import EvalFilter.Model.Compiler

namespace EvalFilter.Compiler

theorem codeSize_append (a b : List Instr) : codeSize (a ++ b) = codeSize a + codeSize b := by
  induction a with
  | nil => simp [codeSize]
  | cons i is ih => simp [codeSize, ih]; omega

@[simp] theorem codeSize_cons (i : Instr) (is : List Instr) : codeSize (i :: is) = i.size + codeSize is := rfl
@[simp] theorem codeSize_nil : codeSize [] = 0 := rfl

/-- an equality of propositions: `simp only [compileExpr, bind_ok_eq] at h` opens a successful `do` block into its
    successful steps -/
theorem bind_ok_eq {α β : Type} {x : CM α} {f : α → CM β} {r : β} :
    ((x >>= f) = .ok r) = (∃ a, x = .ok a ∧ f a = .ok r) := by
  cases x <;> simp [bind, Except.bind]

theorem withConst_size (st : CState) (op : Op) (v : Value) : (withConst st op v).1.size = op.length := rfl
theorem withConst_op (st : CState) (op : Op) (v : Value) : (withConst st op v).1.op = op := rfl

def targets : List Instr → List Nat
  | [] => []
  | i :: is => if i.op = .jump ∨ i.op = .jumpIfFalse then i.arg :: targets is else targets is

def starts : Nat → List Instr → List Nat
  | _, [] => []
  | base, i :: is => base :: starts (base + i.size) is

theorem targets_append (a b : List Instr) : targets (a ++ b) = targets a ++ targets b := by
  induction a with
  | nil => rfl
  | cons i is ih => simp only [List.cons_append, targets, ih]; split <;> simp

theorem starts_append (base : Nat) (a b : List Instr) :
    starts base (a ++ b) = starts base a ++ starts (base + codeSize a) b := by
  induction a generalizing base with
  | nil => simp [starts]
  | cons i is ih => simp [starts, ih, Nat.add_assoc]

theorem base_mem_starts (base : Nat) (code : List Instr) : base ∈ starts base code ∨ codeSize code = 0 := by
  cases code with
  | nil => right; rfl
  | cons i is => left; simp [starts]

def Closed (base : Nat) (code : List Instr) : Prop := ∀ t, t ∈ targets code → t ∈ starts base code

/-- `ext`: the arms of a switch jump to the end of the whole switch, and fall through to what follows them -/
def ClosedE (base : Nat) (code : List Instr) (ext : Nat) : Prop :=
  ∀ t, t ∈ targets code → t ∈ starts base code ∨ t = base + codeSize code ∨ t = ext

theorem Closed_append {base : Nat} {a b : List Instr} (ha : Closed base a) (hb : Closed (base + codeSize a) b) :
    Closed base (a ++ b) := by
  intro t ht
  rw [targets_append, List.mem_append] at ht
  rw [starts_append, List.mem_append]
  exact ht.imp (ha t) (hb t)

/-- Closedness of code with jumps in it: targets and starts are split along the appends; what is left - each
    target is a start of its own sub-block (a hypothesis), or the offset behind some prefix of the code
    (`base_mem_starts` for a sub-block that may be empty) - is case analysis and linear arithmetic over the sizes
    in the context. -/
macro "closed_tac" : tactic => `(tactic| (
  simp only [Closed, ClosedE, targets_append, starts_append, targets, starts, codeSize_append, codeSize_cons, codeSize_nil,
    Instr.size, Op.length, withConst_op, withConst_size]
  simp
  grind [Closed, ClosedE]))

def isConstOp (o : Op) : Prop := o = .constant ∨ o = .lookup ∨ o = .inc ∨ o = .dec

def CodeOk (n : Nat) (code : List Instr) : Prop := ∀ i, i ∈ code → isConstOp i.op → i.arg < n

theorem CodeOk_mono {n m : Nat} {code : List Instr} (h : CodeOk n code) (hle : n ≤ m) : CodeOk m code :=
  fun i hi hc => Nat.lt_of_lt_of_le (h i hi hc) hle

theorem CodeOk_append {n : Nat} {a b : List Instr} : CodeOk n (a ++ b) ↔ CodeOk n a ∧ CodeOk n b := by
  simp [CodeOk, or_imp, forall_and]

theorem CodeOk_nil {n : Nat} : CodeOk n [] := nofun

theorem CodeOk_cons {n : Nat} {i : Instr} {is : List Instr} : CodeOk n (i :: is) ↔ (isConstOp i.op → i.arg < n) ∧ CodeOk n is := by
  simp [CodeOk]

theorem findConst_get (cs : List Value) (v : Value) (i k : Nat) (h : findConst cs v i = some k) :
    i ≤ k ∧ ∃ c, cs[k - i]? = some c ∧ c.inspect = v.inspect := by
  induction cs generalizing i with
  | nil => simp [findConst] at h
  | cons c rest ih =>
    simp only [findConst] at h
    split at h
    · rename_i hc
      cases h
      simp at hc
      exact ⟨Nat.le_refl _, c, by simp, hc.2⟩
    · obtain ⟨h1, c', h2, h3⟩ := ih _ h
      refine ⟨by omega, c', ?_, h3⟩
      have : k - i = (k - (i + 1)) + 1 := by omega
      rw [this]; simpa using h2

theorem addConstant_spec (st : CState) (v : Value) :
    (addConstant st v).1 < (addConstant st v).2.consts.length ∧ st.consts.length ≤ (addConstant st v).2.consts.length := by
  unfold addConstant
  split
  · rename_i i h
    obtain ⟨_, c, hc, _⟩ := findConst_get _ _ _ _ h
    have := (List.getElem?_eq_some_iff.1 hc).1
    simp; omega
  · simp

theorem withConst_funcs (st : CState) (op : Op) (v : Value) : (withConst st op v).2.funcs = st.funcs := by
  unfold withConst addConstant
  cases findConst st.consts v 0 <;> rfl

theorem addConstant_ext (st : CState) (v : Value) : ∃ extra, (addConstant st v).2.consts = st.consts ++ extra := by
  unfold addConstant
  split
  · exact ⟨[], by simp⟩
  · exact ⟨[v], rfl⟩

def EndsRet (code : List Instr) : Prop := ∃ pre i, code = pre ++ [i] ∧ i.op = .return

structure FnOk (n : Nat) (f : FnDef) : Prop where
  closed : Closed 0 f.code
  consts : CodeOk n f.code
  ends : EndsRet f.code

def StOk (st : CState) : Prop := ∀ f, f ∈ st.funcs → FnOk st.consts.length f

theorem StOk_of {st st' : CState} (h : StOk st) (hf : st'.funcs = st.funcs) (hle : st.consts.length ≤ st'.consts.length) :
    StOk st' := by
  intro f hfm
  rw [hf] at hfm
  exact ⟨(h f hfm).closed, CodeOk_mono (h f hfm).consts hle, (h f hfm).ends⟩

/-- what every compile function guarantees about constants and state -/
structure R (st : CState) (code : List Instr) (st' : CState) : Prop where
  grow : st.consts.length ≤ st'.consts.length
  code : CodeOk st'.consts.length code
  funcs : StOk st → StOk st'
  ext : ∃ extra, st'.consts = st.consts ++ extra

theorem R_leaf_const (st : CState) (op : Op) (v : Value) : R st [(withConst st op v).1] (withConst st op v).2 := by
  have := addConstant_spec st v
  exact ⟨this.2, by intro i hi _; simp at hi; subst hi; exact this.1, fun h => StOk_of h (withConst_funcs st op v) this.2,
    addConstant_ext st v⟩

theorem R_seq {st st1 st2 : CState} {a b : List Instr} (h1 : R st a st1) (h2 : R st1 b st2) : R st (a ++ b) st2 :=
  ⟨Nat.le_trans h1.grow h2.grow, CodeOk_append.mpr ⟨CodeOk_mono h1.code h2.grow, h2.code⟩, fun h => h2.funcs (h1.funcs h),
    by obtain ⟨e1, h1'⟩ := h1.ext; obtain ⟨e2, h2'⟩ := h2.ext; exact ⟨e1 ++ e2, by rw [h2', h1']; simp⟩⟩

theorem R_pure (st : CState) (code : List Instr) (h : ∀ i, i ∈ code → ¬ isConstOp i.op) : R st code st :=
  ⟨Nat.le_refl _, fun i hi hc => absurd hc (h i hi), id, ⟨[], by simp⟩⟩

theorem mem_setFunc {fs : List FnDef} {g f : FnDef} (h : f ∈ setFunc fs g) : f = g ∨ f ∈ fs := by
  induction fs with
  | nil => simpa [setFunc] using h
  | cons x xs ih => grind [setFunc]

/-- the body a function definition registers -/
theorem FnOk_body {n : Nat} (name : Str) (params : List Str) {cb : List Instr} (hc : Closed 0 cb) (hk : CodeOk n cb) :
    FnOk n ⟨name, params, if (match cb.getLast? with | some i => i.op == Op.return | none => false) then cb
      else cb ++ [⟨Op.void, 0⟩, ⟨Op.return, 0⟩]⟩ := by
  have tail : FnOk n ⟨name, params, cb ++ [⟨Op.void, 0⟩, ⟨Op.return, 0⟩]⟩ :=
    ⟨Closed_append hc (by intro t ht; simp [targets] at ht), CodeOk_append.mpr ⟨hk, by simp [CodeOk, isConstOp]⟩,
      cb ++ [⟨Op.void, 0⟩], ⟨Op.return, 0⟩, by simp, rfl⟩
  split
  · rename_i i hl
    split
    · rename_i h
      obtain ⟨pre, hpre⟩ := List.getLast?_eq_some_iff.mp hl
      exact ⟨hc, hk, pre, i, hpre, by simpa using h⟩
    · exact tail
  · exact tail

def OpPlain (o : Op) : Prop := o.length = 1 ∧ ¬ (o = .jump ∨ o = .jumpIfFalse) ∧ ¬ isConstOp o

theorem binaryOp_plain {op : Str} {o : Op} (h : binaryOp op = some o) : OpPlain o := by
  unfold binaryOp at h; split at h <;> first | (cases h; simp [OpPlain, isConstOp, Op.length]) | cases h
theorem compoundOp_plain {op : Str} {o : Op} (h : compoundOp op = some o) : OpPlain o := by
  unfold compoundOp at h; split at h <;> first | (cases h; simp [OpPlain, isConstOp, Op.length]) | cases h
theorem prefixOp_plain {op : Str} {o : Op} (h : prefixOp op = some o) : OpPlain o := by
  unfold prefixOp at h; split at h <;> first | (cases h; simp [OpPlain, isConstOp, Op.length]) | cases h

/-- `n` last: unification then meets the code before its size -/
structure Emits (base : Nat) (st : CState) (code : List Instr) (st' : CState) (n : Nat) : Prop where
  size : codeSize code = n
  closed : Closed base code
  consts : R st code st'

theorem Emits.seq {n m base : Nat} {st st1 st2 : CState} {a b : List Instr} (h1 : Emits base st a st1 n)
    (h2 : Emits (base + n) st1 b st2 m) : Emits base st (a ++ b) st2 (n + m) :=
  ⟨by rw [codeSize_append, h1.size, h2.size], Closed_append h1.closed (h1.size ▸ h2.closed), R_seq h1.consts h2.consts⟩

theorem Emits.plain (base : Nat) (st : CState) (code : List Instr)
    (h : ∀ i, i ∈ code → ¬ (i.op = .jump ∨ i.op = .jumpIfFalse) ∧ ¬ isConstOp i.op) : Emits base st code st (codeSize code) := by
  refine ⟨rfl, fun t ht => ?_, R_pure st code (fun i hi => (h i hi).2)⟩
  induction code generalizing base with
  | nil => cases ht
  | cons i is ih =>
    simp only [targets, (h i (List.mem_cons_self ..)).1, ↓reduceIte] at ht
    exact List.mem_cons_of_mem _ (ih _ (fun j hj => h j (List.mem_cons_of_mem _ hj)) ht)

theorem Emits.op (base : Nat) (st : CState) {o : Op} (k : Nat) (h : OpPlain o) : Emits base st [⟨o, k⟩] st 1 :=
  h.1 ▸ Emits.plain base st [⟨o, k⟩] (by simpa using h.2)

theorem Emits.const (base : Nat) (st : CState) (op : Op) (v : Value) (hop : isConstOp op) :
    Emits base st [(withConst st op v).1] (withConst st op v).2 3 := by
  rcases hop with rfl | rfl | rfl | rfl <;>
    exact ⟨rfl, fun t ht => by simp [targets, withConst_op] at ht, R_leaf_const st _ v⟩

mutual
  theorem compileExpr_emits : ∀ (e : Expr) (base : Nat) (st : CState) (r : List Instr × CState),
      compileExpr e base st = .ok r → Emits base st r.1 r.2 e.size
    | .boolLit b, base, st, r, h => by
      simp only [compileExpr, pure, Except.pure] at h; cases h
      cases b <;> exact .plain base st _ (by simp [isConstOp])
    | .floatLit _ _, base, st, r, h | .strLit _, base, st, r, h | .regexpLit _ _ _, base, st, r, h => by
      simp only [compileExpr, pure, Except.pure] at h; cases h; exact .const base st _ _ (.inl rfl)
    | .intLit _ v, base, st, r, h => by
      simp only [compileExpr, pure, Except.pure] at h
      split at h <;> cases h
      · exact .plain base st _ (by simp [isConstOp])
      · exact .const base st _ _ (.inl rfl)
    | .ident _, base, st, r, h => by
      simp only [compileExpr, pure, Except.pure] at h; cases h; exact .const base st _ _ (.inr (.inl rfl))
    | .postfix _ _, base, st, r, h => by
      simp only [compileExpr, pure, Except.pure] at h
      split at h
      · cases h; exact .const base st _ _ (.inr (.inr (.inl rfl)))
      · split at h
        · cases h; exact .const base st _ _ (.inr (.inr (.inr rfl)))
        · cases h
    | .localE _, base, st, r, h => by
      simp only [compileExpr, pure, Except.pure] at h; cases h
      exact (Emits.const base st _ _ (.inl rfl)).seq (.plain _ _ [⟨.local, 0⟩] (by simp [isConstOp]))
    | .arrayLit els, base, st, r, h => by
      simp only [compileExpr, bind_ok_eq, pure, Except.pure] at h
      obtain ⟨⟨c, st1⟩, h1, h2⟩ := h
      cases h2
      exact (compileExprs_emits els base st _ h1).seq (.plain _ _ [⟨.array, els.length⟩] (by simp [isConstOp]))
    | .hashLit pairs, base, st, r, h => by
      simp only [compileExpr, bind_ok_eq, pure, Except.pure] at h
      obtain ⟨⟨c, st1⟩, h1, h2⟩ := h
      cases h2
      exact (compilePairs_emits pairs base st _ h1).seq (.plain _ _ [⟨.hash, pairs.length * 2⟩] (by simp [isConstOp]))
    | .prefix op r', base, st, r, h => by
      simp only [compileExpr, bind_ok_eq] at h
      obtain ⟨⟨cr, st1⟩, h1, h3⟩ := h
      split at h3
      · rename_i o hb
        simp only [pure, Except.pure] at h3; cases h3
        exact (compileExpr_emits r' base st _ h1).seq (.op _ _ 0 (prefixOp_plain hb))
      · cases h3
    | .infix op l r', base, st, r, h => by
      simp only [compileExpr, bind_ok_eq] at h
      obtain ⟨⟨cl, st1⟩, h1, ⟨cr, st2⟩, h2, h3⟩ := h
      have g1 := compileExpr_emits l base st _ h1
      have g2 := compileExpr_emits r' _ _ _ h2
      by_cases hco : isCompound op = true
      · simp only [hco, ↓reduceIte] at h3
        split at h3
        · rename_i _ name o hc
          simp only [pure, Except.pure] at h3; cases h3
          simpa [Expr.size, hco, Instr.size, Op.length, Nat.add_assoc] using g1.seq (g2.seq ((Emits.op _ _ 0 (compoundOp_plain hc)).seq
            ((Emits.const _ _ .constant (.str name) (.inl rfl)).seq (.plain _ _ [⟨.set, 0⟩] (by simp [isConstOp])))))
        · cases h3
      · simp only [hco, Bool.false_eq_true, ↓reduceIte] at h3
        split at h3
        · rename_i o hb
          simp only [pure, Except.pure] at h3; cases h3
          simpa [Expr.size, hco, Nat.add_assoc] using g1.seq (g2.seq (.op _ _ 0 (binaryOp_plain hb)))
        · cases h3
    | .index l i, base, st, r, h => by
      simp only [compileExpr, bind_ok_eq, pure, Except.pure] at h
      obtain ⟨⟨cl, st1⟩, h1, ⟨ci, st2⟩, h2, h3⟩ := h
      cases h3
      simpa [Expr.size, Instr.size, Op.length, Nat.add_assoc] using (compileExpr_emits l base st _ h1).seq
        ((compileExpr_emits i _ _ _ h2).seq (.plain _ _ [⟨.index, 0⟩] (by simp [isConstOp])))
    | .assign name v, base, st, r, h => by
      simp only [compileExpr, bind_ok_eq, pure, Except.pure] at h
      obtain ⟨⟨cv, st1⟩, h1, h3⟩ := h
      cases h3
      exact (compileExpr_emits v base st _ h1).seq
        ((Emits.const _ _ .constant (.str name) (.inl rfl)).seq (.plain _ _ [⟨.set, 0⟩] (by simp [isConstOp])))
    | .call fn args, base, st, r, h => by
      simp only [compileExpr, bind_ok_eq, pure, Except.pure] at h
      obtain ⟨⟨ca, st1⟩, h1, h3⟩ := h
      cases h3
      exact (compileExprs_emits args base st _ h1).seq
        ((Emits.const _ _ .constant (.str fn.str) (.inl rfl)).seq (.plain _ _ [⟨.call, args.length⟩] (by simp [isConstOp])))
    | .funcDef name params body, base, st, r, h => by
      simp only [compileExpr, bind_ok_eq, pure, Except.pure] at h
      obtain ⟨⟨cb, st1⟩, h1, h3⟩ := h
      obtain ⟨_, c1, r1⟩ := compileStmts_emits body 0 st _ h1
      cases h3
      refine ⟨rfl, fun t ht => (nomatch ht), r1.grow, CodeOk_nil, fun hst f hf => ?_, r1.ext⟩
      rcases mem_setFunc hf with rfl | hf
      · exact FnOk_body name params c1 r1.code
      · exact r1.funcs hst f hf
    | .ifE c cons (some a), base, st, r, h => by
      simp only [compileExpr, bind_ok_eq, pure, Except.pure] at h
      obtain ⟨⟨cc, st1⟩, h1, ⟨ca, st2⟩, h2, ⟨cb, st3⟩, h4, h5⟩ := h
      obtain ⟨s1, c1, r1⟩ := compileExpr_emits c base st _ h1
      obtain ⟨s2, c2, r2⟩ := compileStmts_emits cons _ _ _ h2
      obtain ⟨s3, c3, r3⟩ := compileStmts_emits a _ _ _ h4
      cases h5
      refine ⟨?_, ?_, R_seq (R_seq (R_seq (R_seq (R_seq r1 (R_pure _ _ (by simp [isConstOp]))) r2)
        (R_pure _ _ (by simp [isConstOp]))) r3) (R_pure _ _ (by simp [isConstOp]))⟩
      · simp [codeSize_append, s1, s2, s3, Expr.size, Instr.size, Op.length]; omega
      · have b3 := base_mem_starts (base + c.size + 3 + Stmt.sizes cons + 3) cb
        closed_tac
    | .ternary c t f, base, st, r, h => by
      simp only [compileExpr, bind_ok_eq, pure, Except.pure] at h
      obtain ⟨⟨cc, st1⟩, h1, ⟨ct, st2⟩, h2, ⟨cf, st3⟩, h3, h4⟩ := h
      obtain ⟨s1, c1, r1⟩ := compileExpr_emits c base st _ h1
      obtain ⟨s2, c2, r2⟩ := compileExpr_emits t _ _ _ h2
      obtain ⟨s3, c3, r3⟩ := compileExpr_emits f _ _ _ h3
      cases h4
      refine ⟨?_, ?_, R_seq (R_seq (R_seq (R_seq (R_seq r1 (R_pure _ _ (by simp [isConstOp]))) r2)
        (R_pure _ _ (by simp [isConstOp]))) r3) (R_pure _ _ (by simp [isConstOp]))⟩
      · simp [codeSize_append, s1, s2, s3, Expr.size, Instr.size, Op.length]; omega
      · have b3 := base_mem_starts (base + c.size + 3 + t.size + 3) cf
        closed_tac
    | .ifE c body none, base, st, r, h | .whileE c body, base, st, r, h => by
      simp only [compileExpr, bind_ok_eq, pure, Except.pure] at h
      obtain ⟨⟨cc, st1⟩, h1, ⟨cb, st2⟩, h2, h3⟩ := h
      obtain ⟨s1, c1, r1⟩ := compileExpr_emits c base st _ h1
      obtain ⟨s2, c2, r2⟩ := compileStmts_emits body _ _ _ h2
      cases h3
      refine ⟨?_, ?_, R_seq (R_seq (R_seq r1 (R_pure _ _ (by simp [isConstOp]))) r2) (R_pure _ _ (by simp [isConstOp]))⟩
      · simp [codeSize_append, s1, s2, Expr.size, Instr.size, Op.length]; omega
      · have b1 := base_mem_starts base cc
        closed_tac
    | .foreachE idx ident v body, base, st, r, h => by
      simp only [compileExpr, bind_ok_eq, pure, Except.pure] at h
      obtain ⟨⟨cv, st1⟩, h1, ⟨cb, st2⟩, h2, h3⟩ := h
      obtain ⟨s1, c1, r1⟩ := compileExpr_emits v base st _ h1
      obtain ⟨s2, c2, r2⟩ := compileStmts_emits body _ _ _ h2
      cases h3
      refine ⟨?_, ?_, R_seq (R_seq (R_seq r1 (R_seq (R_pure _ [⟨.iterationReset, 0⟩] (by simp [isConstOp]))
        (R_seq (R_leaf_const st1 .constant (.str idx)) (R_seq (R_leaf_const _ .constant (.str ident))
          (R_pure _ [⟨.iterationNext, 0⟩, ⟨.jumpIfFalse, _⟩] (by simp [isConstOp])))))) r2) (R_pure _ _ (by simp [isConstOp]))⟩
      · simp [codeSize_append, s1, s2, Expr.size, Instr.size, withConst_op, Op.length]; omega
      · closed_tac
    | .switchE v cs, base, st, r, h => by
      simp only [compileExpr, bind_ok_eq, pure, Except.pure] at h
      obtain ⟨st0, h0, ⟨ca, st1⟩, h1, ⟨cd, st2⟩, h2, h3⟩ := h
      -- `st0`: a switch without case expressions compiles its value for errors and constants only, and drops the code
      have r0 : R st [] st0 := by
        split at h0
        · cases h0; exact R_pure st [] (by simp)
        · simp only [bind_ok_eq] at h0
          obtain ⟨⟨c0, s0⟩, hv, hs⟩ := h0
          cases hs
          have rv := (compileExpr_emits v base st _ hv).consts
          exact ⟨rv.grow, CodeOk_nil, rv.funcs, rv.ext⟩
      obtain ⟨s1, c1, r1⟩ := compileArms_emits (fun b s => compileExpr v b s) v.size cs _ _ _ _ h1
      have s1 := s1 (fun b s r hr => (compileExpr_emits v b s r hr).size)
      have c1 := c1 (fun b s r hr => ⟨(compileExpr_emits v b s r hr).closed, (compileExpr_emits v b s r hr).size⟩)
      have r1 := r1 (fun b s r hr => (compileExpr_emits v b s r hr).consts)
      obtain ⟨s2, c2, r2⟩ := compileDefaults_emits cs _ _ _ h2
      cases h3
      refine ⟨?_, ?_, R_seq (R_seq (R_seq r0 r1) r2) (R_pure _ _ (by simp [isConstOp]))⟩
      · simp [codeSize_append, s1, s2, Expr.size, Instr.size, Op.length]; omega
      · have b2 := base_mem_starts (base + Case.armsSize v.size cs) cd
        closed_tac

  theorem compileExprs_emits : ∀ (es : List Expr) (base : Nat) (st : CState) (r : List Instr × CState),
      compileExprs es base st = .ok r → Emits base st r.1 r.2 (Expr.sizes es)
    | [], base, st, r, h => by
      simp only [compileExprs, pure, Except.pure] at h; cases h; exact .plain base st [] (by simp)
    | e :: rest, base, st, r, h => by
      simp only [compileExprs, bind_ok_eq, pure, Except.pure] at h
      obtain ⟨⟨c, st1⟩, h1, ⟨cs, st2⟩, h2, h3⟩ := h
      cases h3
      exact (compileExpr_emits e base st _ h1).seq (compileExprs_emits rest _ _ _ h2)

  theorem compilePairs_emits : ∀ (ps : List Pair) (base : Nat) (st : CState) (r : List Instr × CState),
      compilePairs ps base st = .ok r → Emits base st r.1 r.2 (Pair.sizes ps)
    | [], base, st, r, h => by
      simp only [compilePairs, pure, Except.pure] at h; cases h; exact .plain base st [] (by simp)
    | .mk k v :: rest, base, st, r, h => by
      simp only [compilePairs, bind_ok_eq, pure, Except.pure] at h
      obtain ⟨⟨ck, st1⟩, h1, ⟨cv, st2⟩, h2, ⟨cs, st3⟩, h3, h4⟩ := h
      cases h4
      simpa [Pair.sizes, Nat.add_assoc] using (compileExpr_emits k base st _ h1).seq
        ((compileExpr_emits v _ _ _ h2).seq (compilePairs_emits rest _ _ _ h3))

  theorem compileStmt_emits : ∀ (s : Stmt) (base : Nat) (st : CState) (r : List Instr × CState),
      compileStmt s base st = .ok r → Emits base st r.1 r.2 s.size
    | .expr e, base, st, r, h => compileExpr_emits e base st r h
    | .ret e, base, st, r, h => by
      simp only [compileStmt, bind_ok_eq, pure, Except.pure] at h
      obtain ⟨⟨c, st1⟩, h1, h3⟩ := h
      cases h3
      exact (compileExpr_emits e base st _ h1).seq (.plain _ _ [⟨.return, 0⟩] (by simp [isConstOp]))

  theorem compileStmts_emits : ∀ (ss : List Stmt) (base : Nat) (st : CState) (r : List Instr × CState),
      compileStmts ss base st = .ok r → Emits base st r.1 r.2 (Stmt.sizes ss)
    | [], base, st, r, h => by
      simp only [compileStmts, pure, Except.pure] at h; cases h; exact .plain base st [] (by simp)
    | s :: rest, base, st, r, h => by
      simp only [compileStmts, bind_ok_eq, pure, Except.pure] at h
      obtain ⟨⟨c, st1⟩, h1, ⟨cs, st2⟩, h2, h3⟩ := h
      cases h3
      exact (compileStmt_emits s base st _ h1).seq (compileStmts_emits rest _ _ _ h2)

  /-- `cv` stands for the compilation of the switch value, which the induction reaches only through the
      hypotheses; each conclusion asks of `cv` no more than it needs -/
  theorem compileArms_emits (cv : Nat → CState → CM (List Instr × CState)) (vsize : Nat) :
      ∀ (cs : List Case) (base endPos : Nat) (st : CState) (r : List Instr × CState),
      compileArms cv vsize cs base endPos st = .ok r →
      ((∀ b s r, cv b s = .ok r → codeSize r.1 = vsize) → codeSize r.1 = Case.armsSize vsize cs) ∧
      ((∀ b s r, cv b s = .ok r → Closed b r.1 ∧ codeSize r.1 = vsize) → ClosedE base r.1 endPos) ∧
      ((∀ b s r, cv b s = .ok r → R s r.1 r.2) → R st r.1 r.2)
    | [], _, _, st, r, h => by
      simp only [compileArms, pure, Except.pure] at h; cases h
      exact ⟨fun _ => rfl, fun _ t ht => (nomatch ht), fun _ => R_pure st [] (by simp)⟩
    | .mk isDef es b :: rest, base, endPos, st, r, h => by
      simp only [compileArms] at h
      split at h
      · rename_i hd
        simpa [Case.armsSize, hd] using compileArms_emits cv vsize rest base endPos st r h
      · rename_i hd
        simp only [bind_ok_eq, pure, Except.pure] at h
        obtain ⟨⟨c, st1⟩, h1, ⟨cr, st2⟩, h2, h3⟩ := h
        obtain ⟨is1, ic1, ir1⟩ := compileArm_emits cv vsize (fun bs s => compileStmts b bs s) (Stmt.sizes b) es _ _ _ _ h1
        obtain ⟨is2, ic2, ir2⟩ := compileArms_emits cv vsize rest _ _ _ _ h2
        cases h3
        have hb := fun bs s r hr => compileStmts_emits b bs s r hr
        refine ⟨fun hv => ?_, fun hv => ?_, fun hv => R_seq (ir1 hv (fun bs s r hr => (hb bs s r hr).consts)) (ir2 hv)⟩
        · simp [codeSize_append, is1 hv (fun bs s r hr => (hb bs s r hr).size), is2 hv, Case.armsSize, hd]
        · have s1 := is1 (fun b s r hr => (hv b s r hr).2) (fun bs s r hr => (hb bs s r hr).size)
          have c1 := ic1 hv (fun bs s r hr => ⟨(hb bs s r hr).closed, (hb bs s r hr).size⟩)
          have c2 := ic2 hv
          clear hv hb is1 ic1 ir1 is2 ic2 ir2      -- quantified: `grind` has no use for them (cf. `compileArm_emits`)
          have b2 := base_mem_starts (base + Case.armSize vsize (Stmt.sizes b) es) cr
          closed_tac

  theorem compileArm_emits (cv : Nat → CState → CM (List Instr × CState)) (vsize : Nat)
      (cblock : Nat → CState → CM (List Instr × CState)) (bsize : Nat) :
      ∀ (es : List Expr) (base endPos : Nat) (st : CState) (r : List Instr × CState),
      compileArm cv vsize cblock bsize es base endPos st = .ok r →
      ((∀ b s r, cv b s = .ok r → codeSize r.1 = vsize) → (∀ b s r, cblock b s = .ok r → codeSize r.1 = bsize) →
        codeSize r.1 = Case.armSize vsize bsize es) ∧
      ((∀ b s r, cv b s = .ok r → Closed b r.1 ∧ codeSize r.1 = vsize) →
        (∀ b s r, cblock b s = .ok r → Closed b r.1 ∧ codeSize r.1 = bsize) → ClosedE base r.1 endPos) ∧
      ((∀ b s r, cv b s = .ok r → R s r.1 r.2) → (∀ b s r, cblock b s = .ok r → R s r.1 r.2) → R st r.1 r.2)
    | [], _, _, st, r, h => by
      simp only [compileArm, pure, Except.pure] at h; cases h
      exact ⟨fun _ _ => rfl, fun _ _ t ht => (nomatch ht), fun _ _ => R_pure st [] (by simp)⟩
    | e :: rest, base, endPos, st, r, h => by
      simp only [compileArm, bind_ok_eq, pure, Except.pure] at h
      obtain ⟨⟨cv', st1⟩, h1, ⟨ce, st2⟩, h2, ⟨cb, st3⟩, h3, ⟨cr, st4⟩, h4, h5⟩ := h
      obtain ⟨s2, c2, r2⟩ := compileExpr_emits e _ _ _ h2
      obtain ⟨is4, ic4, ir4⟩ := compileArm_emits cv vsize cblock bsize rest _ _ _ _ h4
      cases h5
      refine ⟨fun hv hb => ?_, fun hv hb => ?_, fun hv hb => R_seq (R_seq (R_seq (R_seq (R_seq (hv _ _ _ h1) r2)
        (R_pure _ _ (by simp [isConstOp]))) (hb _ _ _ h3)) (R_pure _ _ (by simp [isConstOp]))) (ir4 hv hb)⟩
      · have s1 := hv _ _ _ h1
        have s3 := hb _ _ _ h3
        simp [codeSize_append, s1, s2, s3, is4 hv hb, Case.armSize, Instr.size, Op.length]; omega
      · have ⟨c1, s1⟩ := hv _ _ _ h1
        have ⟨c3, s3⟩ := hb _ _ _ h3
        have c4 := ic4 hv hb
        clear hv hb is4 ic4 ir4      -- quantified: with them in the context `grind` fails
        have b4 := base_mem_starts (base + vsize + e.size + 1 + 3 + bsize + 3) cr
        closed_tac

  theorem compileDefaults_emits : ∀ (cs : List Case) (base : Nat) (st : CState) (r : List Instr × CState),
      compileDefaults cs base st = .ok r → Emits base st r.1 r.2 (Case.defaultsSize cs)
    | [], base, st, r, h => by
      simp only [compileDefaults, pure, Except.pure] at h; cases h; exact .plain base st [] (by simp)
    | .mk isDef es b :: rest, base, st, r, h => by
      simp only [compileDefaults] at h
      split at h
      · rename_i hd
        simp only [bind_ok_eq, pure, Except.pure] at h
        obtain ⟨⟨c, st1⟩, h1, ⟨cr, st2⟩, h2, h3⟩ := h
        cases h3
        simpa [Case.defaultsSize, hd] using (compileStmts_emits b _ _ _ h1).seq (compileDefaults_emits rest _ _ _ h2)
      · rename_i hd
        simpa [Case.defaultsSize, hd] using compileDefaults_emits rest base st r h
end

theorem compileExpr_size {e base st r} (h : compileExpr e base st = .ok r) : codeSize r.1 = e.size :=
  (compileExpr_emits e base st r h).size
theorem compileExprs_size {es base st r} (h : compileExprs es base st = .ok r) : codeSize r.1 = Expr.sizes es :=
  (compileExprs_emits es base st r h).size
theorem compilePairs_size {ps base st r} (h : compilePairs ps base st = .ok r) : codeSize r.1 = Pair.sizes ps :=
  (compilePairs_emits ps base st r h).size
theorem compileStmt_size {s base st r} (h : compileStmt s base st = .ok r) : codeSize r.1 = s.size :=
  (compileStmt_emits s base st r h).size
theorem compileStmts_size {ss base st r} (h : compileStmts ss base st = .ok r) : codeSize r.1 = Stmt.sizes ss :=
  (compileStmts_emits ss base st r h).size
theorem compileDefaults_size {cs base st r} (h : compileDefaults cs base st = .ok r) : codeSize r.1 = Case.defaultsSize cs :=
  (compileDefaults_emits cs base st r h).size
theorem compileArms_size {cv : Nat → CState → CM (List Instr × CState)} {vsize : Nat}
    (hcv : ∀ b s r, cv b s = .ok r → codeSize r.1 = vsize) {cs base endPos st r}
    (h : compileArms cv vsize cs base endPos st = .ok r) : codeSize r.1 = Case.armsSize vsize cs :=
  (compileArms_emits cv vsize cs base endPos st r h).1 hcv
theorem compileArm_size {cv : Nat → CState → CM (List Instr × CState)} {vsize : Nat}
    (hcv : ∀ b s r, cv b s = .ok r → codeSize r.1 = vsize) {cblock : Nat → CState → CM (List Instr × CState)} {bsize : Nat}
    (hcb : ∀ b s r, cblock b s = .ok r → codeSize r.1 = bsize) {es base endPos st r}
    (h : compileArm cv vsize cblock bsize es base endPos st = .ok r) : codeSize r.1 = Case.armSize vsize bsize es :=
  (compileArm_emits cv vsize cblock bsize es base endPos st r h).1 hcv hcb

/- `_closed`: of these only `compileExpr_closed` and `compileStmts_closed` have users (C02, C18, `CompStatic`). -/
theorem compileExpr_closed : ∀ e base st r, compileExpr e base st = .ok r → Closed base r.1 :=
  fun e base st r h => (compileExpr_emits e base st r h).closed
theorem compileStmts_closed : ∀ ss base st r, compileStmts ss base st = .ok r → Closed base r.1 :=
  fun ss base st r h => (compileStmts_emits ss base st r h).closed
theorem compileExprs_closed : ∀ (es : List Expr) (base : Nat) (st : CState) (r : List Instr × CState),
    compileExprs es base st = .ok r → Closed base r.1 :=
  fun es base st r h => (compileExprs_emits es base st r h).closed
theorem compilePairs_closed : ∀ (ps : List Pair) (base : Nat) (st : CState) (r : List Instr × CState),
    compilePairs ps base st = .ok r → Closed base r.1 :=
  fun ps base st r h => (compilePairs_emits ps base st r h).closed
theorem compileStmt_closed : ∀ (s : Stmt) (base : Nat) (st : CState) (r : List Instr × CState),
    compileStmt s base st = .ok r → Closed base r.1 :=
  fun s base st r h => (compileStmt_emits s base st r h).closed
theorem compileDefaults_closed : ∀ (cs : List Case) (base : Nat) (st : CState) (r : List Instr × CState),
    compileDefaults cs base st = .ok r → Closed base r.1 :=
  fun cs base st r h => (compileDefaults_emits cs base st r h).closed
theorem compileArms_closed (cv : Nat → CState → CM (List Instr × CState)) (vsize : Nat)
    (hcv : ∀ b s r, cv b s = .ok r → Closed b r.1 ∧ codeSize r.1 = vsize) :
    ∀ (cs : List Case) (base endPos : Nat) (st : CState) (r : List Instr × CState),
    compileArms cv vsize cs base endPos st = .ok r → ClosedE base r.1 endPos :=
  fun cs base endPos st r h => (compileArms_emits cv vsize cs base endPos st r h).2.1 hcv
theorem compileArm_closed (cv : Nat → CState → CM (List Instr × CState)) (vsize : Nat)
    (hcv : ∀ b s r, cv b s = .ok r → Closed b r.1 ∧ codeSize r.1 = vsize)
    (cblock : Nat → CState → CM (List Instr × CState)) (bsize : Nat)
    (hcb : ∀ b s r, cblock b s = .ok r → Closed b r.1 ∧ codeSize r.1 = bsize) :
    ∀ (es : List Expr) (base endPos : Nat) (st : CState) (r : List Instr × CState),
    compileArm cv vsize cblock bsize es base endPos st = .ok r → ClosedE base r.1 endPos :=
  fun es base endPos st r h => (compileArm_emits cv vsize cblock bsize es base endPos st r h).2.1 hcv hcb

theorem compileExpr_R {e base st r} (h : compileExpr e base st = .ok r) : R st r.1 r.2 :=
  (compileExpr_emits e base st r h).consts
theorem compileExprs_R {es base st r} (h : compileExprs es base st = .ok r) : R st r.1 r.2 :=
  (compileExprs_emits es base st r h).consts
theorem compilePairs_R {ps base st r} (h : compilePairs ps base st = .ok r) : R st r.1 r.2 :=
  (compilePairs_emits ps base st r h).consts
theorem compileStmts_R {ss base st r} (h : compileStmts ss base st = .ok r) : R st r.1 r.2 :=
  (compileStmts_emits ss base st r h).consts
theorem compileDefaults_R {cs base st r} (h : compileDefaults cs base st = .ok r) : R st r.1 r.2 :=
  (compileDefaults_emits cs base st r h).consts
theorem compileArms_R {cv : Nat → CState → CM (List Instr × CState)} {vsize : Nat}
    (hcv : ∀ b s r, cv b s = .ok r → R s r.1 r.2) {cs base endPos st r}
    (h : compileArms cv vsize cs base endPos st = .ok r) : R st r.1 r.2 :=
  (compileArms_emits cv vsize cs base endPos st r h).2.2 hcv
theorem compileArm_R {cv : Nat → CState → CM (List Instr × CState)} {vsize : Nat}
    (hcv : ∀ b s r, cv b s = .ok r → R s r.1 r.2) {cblock : Nat → CState → CM (List Instr × CState)} {bsize : Nat}
    (hcb : ∀ b s r, cblock b s = .ok r → R s r.1 r.2) {es base endPos st r}
    (h : compileArm cv vsize cblock bsize es base endPos st = .ok r) : R st r.1 r.2 :=
  (compileArm_emits cv vsize cblock bsize es base endPos st r h).2.2 hcv hcb

theorem compileProgram_ok {prog : Program} {c : Compiled} (h : compileProgram prog = .ok c) :
    ∃ code st, compileStmts (normStmts prog) 0 ⟨[], []⟩ = .ok (code, st) ∧ c = ⟨st.consts, code, st.funcs⟩ ∧
      codeSize code ≤ maxProgramSize ∧ st.consts.length ≤ maxProgramSize ∧
      ∀ f, f ∈ st.funcs → codeSize f.code ≤ maxProgramSize := by
  simp only [compileProgram, bind, Except.bind, pure, Except.pure] at h
  split at h
  · cases h
  · split at h
    · cases h
    · rename_i r hcomp
      split at h <;> cases h
      rename_i hsize
      simp only [Bool.or_eq_true, decide_eq_true_eq, not_or, Nat.not_lt, List.any_eq_true, not_exists, not_and] at hsize
      exact ⟨r.1, r.2, hcomp, rfl, hsize.1.1, hsize.1.2, hsize.2⟩

end EvalFilter.Compiler
