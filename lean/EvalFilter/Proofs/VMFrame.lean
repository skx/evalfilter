/-
  Facts about the VM model on its own, shared by the proofs that reason about `step` and `loop`: the errors of
  operators and helper functions are none of the four classes the byte-code verifier rules out and never the
  out-of-fuel marker (`OpErr`); one turn of the loop at an instruction (`loop_fetch`); the poll budget of a
  cancelled context is kept by every run (`Good`, C09); a call leaves at most one scope more than it found
  (C06, C07).
-/
import EvalFilter.Model.VM
import EvalFilter.Proofs.WFDecode

namespace EvalFilter.VM
open EvalFilter.OptSim (Fetch)

/-- the four error classes whose cause lies in the byte code alone: those a verified program never shows
    (`step` has further classes of its own - noSuchFunction, notIterable, incType … - that depend on the values) -/
def loopClasses : List String := ["unknownOpcode", "ipOOB", "badConstant", "underflow"]

/-- an error that is none of `loopClasses` (nor time-out, nor out of fuel): a class of its own, a recovered
    panic, or an answer the model declines to give -/
def OpErr (e : Err) : Prop := e = .panic ∨ e = .unsupported ∨ ∃ s, s ∉ loopClasses ∧ e = .error s

theorem OpErr.noof {e : Err} (h : OpErr e) : e ≠ .outOfFuel := by
  rcases h with rfl | rfl | ⟨s, -, rfl⟩ <;> simp

theorem OpErr.not_internal {e : Err} (h : OpErr e) :
    e ≠ .error "unknownOpcode" ∧ e ≠ .error "ipOOB" ∧ e ≠ .error "badConstant" ∧ e ≠ .error "underflow" := by
  rcases h with rfl | rfl | ⟨s, hs, rfl⟩
  · simp
  · simp
  · simpa [loopClasses] using hs

theorem intOp_err {op : Op} {l r : Int64} {e : Err} (h : intOp op l r = .error e) : OpErr e := by
  unfold intOp at h; simp only [err, vbool] at h
  (repeat' split at h) <;> cases h <;> simp [OpErr, loopClasses]

theorem floatOp_err {op : Op} {l r : Float} {e : Err} (h : floatOp op l r = .error e) : OpErr e := by
  unfold floatOp at h; simp only [err, vbool] at h
  (repeat' split at h) <;> cases h <;> simp [OpErr, loopClasses]

theorem strOp_err {op : Op} {l r : Str} {e : Err} (h : strOp op l r = .error e) : OpErr e := by
  unfold strOp at h; simp only [err, vbool] at h
  (repeat' split at h) <;> cases h <;> simp [OpErr, loopClasses]

theorem callMatch_err {M : Machine} {a b : Value} {e : Err} (h : callMatch M a b = .error e) : OpErr e := by
  unfold callMatch at h; simp only [] at h
  (repeat' split at h) <;> cases h <;> simp [OpErr, loopClasses]

theorem map_eq_error {ε α β : Type} {f : α → β} {x : Except ε α} {e : ε} : Except.map f x = .error e ↔ x = .error e := by
  cases x <;> simp [Except.map]

attribute [local grind →] intOp_err floatOp_err strOp_err callMatch_err in
theorem binop_err {M : Machine} {op : Op} {l r : Value} {e : Err} (h : binop M op l r = .error e) : OpErr e := by
  unfold binop at h
  repeat' split at h
  all_goals simp only [map_eq_error, err, vbool, Except.error.injEq, reduceCtorEq] at h
  -- a literal error, or the error of one of the operators above
  all_goals first | (subst h; simp [OpErr, loopClasses]; done) | grind

theorem indexOp_err {l i : Value} {e : Err} (h : indexOp l i = .error e) : OpErr e := by
  unfold indexOp at h; simp only [err] at h
  (repeat' split at h) <;> cases h <;> simp [OpErr, loopClasses]

theorem minusOp_err {v : Value} {e : Err} (h : minusOp v = .error e) : OpErr e := by
  unfold minusOp at h; simp only [err] at h
  (repeat' split at h) <;> cases h <;> simp [OpErr, loopClasses]

theorem sqrtOp_err {v : Value} {e : Err} (h : sqrtOp v = .error e) : OpErr e := by
  unfold sqrtOp at h; simp only [err] at h
  (repeat' split at h) <;> cases h <;> simp [OpErr, loopClasses]

theorem rangeOp_err {a b : Value} {e : Err} (h : rangeOp a b = .error e) : OpErr e := by
  unfold rangeOp at h; simp only [err] at h
  (repeat' split at h) <;> cases h <;> simp [OpErr, loopClasses]

theorem lookup_err {obj : HostVal} {env : Env} {n : Str} {e : Err} (h : lookup obj env n = .error e) : OpErr e := by
  unfold lookup at h; simp only [] at h
  (repeat' split at h) <;> cases h <;> simp [OpErr]

theorem buildHash_err {fuel : Nat} {xs : List Value} {acc : List HPair} {e : Err}
    (h : buildHash fuel xs acc = .error e) : OpErr e := by
  induction fuel generalizing xs acc with
  | zero => simp [buildHash] at h
  | succ n ih =>
    rcases xs with _ | ⟨v, _ | ⟨k, more⟩⟩ <;> simp only [buildHash, reduceCtorEq] at h
    split at h
    · split at h <;> (cases h; simp [OpErr, loopClasses])
    · exact ih h

theorem lookupUser_mem {M : Machine} {name : Str} {uf : UserFn} (h : lookupUser M name = some uf) : uf ∈ M.funcs :=
  List.mem_reverse.mp (List.mem_of_find?_eq_some h)

/-- One turn of the loop where an instruction is known to stand.  `loop_fetch_nd` is the same under a context
    that has not cancelled, `Exec.exec_one` the same for compiled code (`CodeAt`); over arbitrary bytes, where
    the fetch itself can fail (`loop_good`, `OptSim.loop_mono`), unfold `loop`. -/
theorem loop_fetch (M : Machine) (obj : HostVal) {c : Bytes} {ip : Nat} {i : Instr} (h : Fetch c ip i)
    (f : Nat) (stack : List Value) (st : RunSt) :
    loop M obj c (f + 1) ip stack st =
      if M.done st.polls then (.error .timeout, { st with polls := st.polls + 1 }) else
      match step M obj c.length (fun c s => loop M obj c f 0 [] s) i.op.toNat i.arg (ip + i.op.length) stack
          { st with polls := st.polls + 1 } with
      | .cont ip' stack' st' => loop M obj c f ip' stack' st'
      | .halt r st' => (r, st') := by
  have hfit := h.fits
  rw [loop, h.arg]
  simp only [Nat.not_le.2 h.lt, ↓reduceIte, h.op, WF.byteLength_toNat]
  rcases WF.Op.length_cases i.op with h1 | h3
  · simp [h1]; rfl
  · simp [h3, show ¬ ip + 3 > c.length by omega]; rfl

theorem loop_fetch_nd (M : Machine) (obj : HostVal) {c : Bytes} {ip : Nat} {i : Instr} (h : Fetch c ip i)
    (f : Nat) (stack : List Value) (st : RunSt) (hnd : M.done st.polls = false) :
    loop M obj c (f + 1) ip stack st =
      (match step M obj c.length (fun c s => loop M obj c f 0 [] s) i.op.toNat i.arg (ip + i.op.length) stack
              { st with polls := st.polls + 1 } with
       | .cont ip' stack' st' => loop M obj c f ip' stack' st'
       | .halt r st' => (r, st')) := by
  rw [loop_fetch M obj h, hnd]; rfl

def Good (k : Nat) (x : Res × RunSt) : Prop :=
  x.2.polls ≤ k ∨ (x.2.polls = k + 1 ∧ x.1 = .error .timeout)

def StepOut.Good (k : Nat) : StepOut → Prop
  | .cont _ _ st' => st'.polls ≤ k
  | .halt r st' => VM.Good k (r, st')

theorem finish_fst (d : Nat) (x : Res × RunSt) : (finish d x).1 = x.1 := rfl
theorem finish_polls (d : Nat) (x : Res × RunSt) : (finish d x).2.polls = x.2.polls := rfl
theorem finish_out (d : Nat) (x : Res × RunSt) : (finish d x).2.out = x.2.out := rfl

theorem invoke_good (k : Nat) (runBody : Bytes → RunSt → Res × RunSt)
    (hbody : ∀ c s, s.polls ≤ k → Good k (runBody c s)) (uf : UserFn) (args : List Value) (st : RunSt)
    (hst : st.polls ≤ k) : Good k (invoke runBody uf args st) := by
  unfold invoke
  dsimp only
  split
  · exact .inl hst
  · split
    · exact .inl hst
    · split
      · exact .inl hst
      · exact hbody uf.code _ hst

theorem declare_scopes_length (e : Env) (name : Str) (v : Value) :
    (e.declare name v).scopes.length = e.scopes.length := by
  unfold Env.declare
  split
  · rfl
  · rename_i s rest heq
    have := congrArg List.length heq
    simp at this ⊢
    omega

theorem foldl_declare_scopes_length (ps : List (Str × Value)) (e : Env) :
    (ps.foldl (fun e (p : Str × Value) => e.declare p.1 p.2) e).scopes.length = e.scopes.length := by
  induction ps generalizing e with
  | nil => rfl
  | cons p ps ih => simp only [List.foldl_cons]; rw [ih, declare_scopes_length]

/-- the one scope more is the function's own, which OpCall then removes -/
theorem invoke_scopes_le (runBody : Bytes → RunSt → Res × RunSt) (uf : UserFn) (args : List Value) (st : RunSt) :
    (invoke runBody uf args st).2.env.scopes.length ≤ st.env.scopes.length + 1 := by
  unfold invoke
  dsimp only
  split
  · exact Nat.le_succ _
  · split
    · simp [Env.addScope]
    · split
      · simp [foldl_declare_scopes_length, Env.addScope]
      · simp [finish, Env.truncate, List.length_take, foldl_declare_scopes_length, Env.addScope]
        omega

theorem Good.polls_le {k : Nat} {v : Value} {s : RunSt} (h : Good k (.ok v, s)) : s.polls ≤ k :=
  h.elim id (fun h => nomatch h.2)

theorem step_good (k : Nat) (M : Machine) (obj : HostVal) (codeLen : Nat)
    (runBody : Bytes → RunSt → Res × RunSt)
    (hbody : ∀ c s, s.polls ≤ k → Good k (runBody c s))
    (opb arg next : Nat) (stack : List Value) (st : RunSt) (hst : st.polls ≤ k) :
    (step M obj codeLen runBody opb arg next stack st).Good k := by
  have hg : ∀ uf args r st', invoke runBody uf args st = (r, st') → Good k (r, st') :=
    fun uf args _ _ h => h ▸ invoke_good k runBody hbody uf args st hst
  unfold step
  dsimp only
  repeat' split
  -- every arm but that of a user-function call goes on, or ends, with the polls of `st`
  all_goals first
    | exact hst
    | exact .inl hst
    | skip
  -- the call, `invoke … = (r, st')`, ends within budget, and after a value `st'` is carried on
  all_goals
    have h := hg _ _ _ _ ‹invoke runBody _ _ st = _›
    first
      | exact h
      | exact .inl h.polls_le
      | exact h.polls_le

/-- Once the context reports cancellation from poll `k` on, a run that starts with at most `k` polls made
    executes no instruction after the poll that saw the cancellation. -/
theorem loop_good (k : Nat) (M : Machine) (hdone : ∀ n, k ≤ n → M.done n = true) (obj : HostVal) :
    ∀ (fuel : Nat) (code : Bytes) (ip : Nat) (stack : List Value) (st : RunSt),
      st.polls ≤ k → Good k (loop M obj code fuel ip stack st) := by
  intro fuel
  induction fuel with
  | zero => intro code ip stack st h; unfold loop; left; exact h
  | succ n ih =>
    intro code ip stack st h
    unfold loop
    dsimp only
    split
    · left; exact h
    · split
      · by_cases hk : st.polls = k
        · right; exact ⟨by simp [hk], rfl⟩
        · left; show st.polls + 1 ≤ k; omega
      · rename_i hnd
        have hlt : st.polls < k := Nat.lt_of_not_le (fun hc => hnd (hdone _ hc))
        split
        · left; show st.polls + 1 ≤ k; omega
        · have hs := step_good k M obj code.length (fun c s => loop M obj c n 0 [] s)
            (fun c s hs => ih c 0 [] s hs)
            (code.getD ip 0).toNat
            (if byteLength (code.getD ip 0).toNat > 1 then decode16 (code.getD (ip+1) 0) (code.getD (ip+2) 0) else 0)
            (ip + byteLength (code.getD ip 0).toNat) stack
            { st with polls := st.polls + 1 } (show st.polls + 1 ≤ k by omega)
          split
          · rename_i heq
            rw [heq] at hs
            exact ih _ _ _ _ hs
          · rename_i heq
            rw [heq] at hs
            exact hs

end EvalFilter.VM
