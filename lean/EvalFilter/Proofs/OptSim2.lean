/-
  The simulation theorem behind the validation of the optimizer (C03).  `BodySim` says how the instruction
  pointers of two bodies correspond; `Corr` is the same made symmetric, so that one induction (`Corr.sim`)
  gives both `sim` and its converse `sim_back`.
-/
import EvalFilter.Proofs.OptSim1
import EvalFilter.Proofs.Exec

namespace EvalFilter.OptSim
open EvalFilter.VM

/-- **More fuel never changes a finished run.** -/
theorem loop_mono (M : Machine) (obj : HostVal) :
    ∀ (f : Nat) (c : Bytes) (ip : Nat) (stack : List Value) (st : RunSt),
      (loop M obj c f ip stack st).1 ≠ .error .outOfFuel →
      ∀ f', f ≤ f' → loop M obj c f' ip stack st = loop M obj c f ip stack st := by
  intro f
  induction f with
  | zero => intro c ip stack st h; simp [loop] at h
  | succ n ih =>
    intro c ip stack st h f' hf
    obtain ⟨m, rfl⟩ : ∃ m, f' = m + 1 := ⟨f' - 1, by omega⟩
    have hnm : n ≤ m := by omega
    rw [loop] at h ⊢
    rw [loop]
    by_cases h1 : ip ≥ c.length
    · simp only [h1, ↓reduceIte]
    · simp only [h1, ↓reduceIte] at h ⊢
      by_cases h2 : M.done st.polls = true
      · simp only [h2, ↓reduceIte]
      · simp only [h2, Bool.false_eq_true, ↓reduceIte] at h ⊢
        by_cases h3 : (decide (byteLength (c.getD ip 0).toNat > 1) && decide (ip + 3 > c.length)) = true
        · simp only [h3, ↓reduceIte]
        · simp only [h3, Bool.false_eq_true, ↓reduceIte] at h ⊢
          generalize hopb : (c.getD ip 0).toNat = opb at h ⊢
          generalize harg : (if byteLength opb > 1 then decode16 (c.getD (ip + 1) 0) (c.getD (ip + 2) 0) else 0) = arg at h ⊢
          generalize hst1 : ({ st with polls := st.polls + 1 } : RunSt) = st1 at h ⊢
          have hstep : step M obj c.length (fun c s => loop M obj c m 0 [] s) opb arg (ip + byteLength opb) stack st1 =
              step M obj c.length (fun c s => loop M obj c n 0 [] s) opb arg (ip + byteLength opb) stack st1 := by
            cases ho : Op.ofNat? opb with
            | none => unfold step; simp [ho]
            | some op =>
              have := WF.Op.ofNat_some ho
              subst this
              apply step_rb_congr
              intro c2 s2 hc2
              apply ih
              · intro hoof
                obtain ⟨st', hs⟩ := step_callee_oof M obj c.length (fun c s => loop M obj c n 0 [] s) op arg
                  (ip + byteLength op.toNat) stack st1 hc2 hoof
                rw [hs] at h
                exact h rfl
              · exact hnm
          rw [hstep]
          cases hs : step M obj c.length (fun c s => loop M obj c n 0 [] s) opb arg (ip + byteLength opb) stack st1 with
          | halt r st' => rfl
          | cont ip' stack' st' =>
            rw [hs] at h
            exact ih c ip' stack' st' h m hnm

abbrev Cfg := Nat × List Value × RunSt

/-- `k` turns of the loop lead from configuration `x` to `z`, whatever the fuel -/
inductive Steps (M : Machine) (obj : HostVal) (c : Bytes) : Nat → Cfg → Cfg → Prop
  | zero (x : Cfg) : Steps M obj c 0 x x
  | succ {k : Nat} {x y z : Cfg} :
      (∀ f, loop M obj c (f + 1) x.1 x.2.1 x.2.2 = loop M obj c f y.1 y.2.1 y.2.2) →
      Steps M obj c k y z → Steps M obj c (k + 1) x z

theorem Steps.run {M : Machine} {obj : HostVal} {c : Bytes} {k : Nat} {x z : Cfg} (h : Steps M obj c k x z) :
    ∀ f, loop M obj c (f + k) x.1 x.2.1 x.2.2 = loop M obj c f z.1 z.2.1 z.2.2 := by
  induction h with
  | zero x => intro f; rfl
  | @succ k _ _ _ h1 _ ih => intro f; rw [show f + (k + 1) = (f + k) + 1 by omega, h1, ih]

theorem Steps.oof {M : Machine} {obj : HostVal} {c : Bytes} {k : Nat} {x z : Cfg} (h : Steps M obj c k x z) :
    ∀ f, f < k → (loop M obj c f x.1 x.2.1 x.2.2).1 = .error .outOfFuel := by
  induction h with
  | zero x => intro f hf; omega
  | succ h1 _ ih =>
    intro f hf
    cases f with
    | zero => simp [loop]
    | succ f => rw [h1]; exact ih f (by omega)

theorem Steps.trans {M : Machine} {obj : HostVal} {c : Bytes} {k k' : Nat} {x y z : Cfg}
    (h : Steps M obj c k x y) (h' : Steps M obj c k' y z) : Steps M obj c (k' + k) x z := by
  induction h with
  | zero x => exact h'
  | succ h1 _ ih => exact .succ h1 (ih h')

/-- How the instruction pointers of two bodies correspond (`R`), point by point: both at the end; or the
    same instruction on both sides (jump operands corresponding); or a window that each side crosses in
    its own number of turns, arriving with the same stack and corresponding states (when the second side
    needs no turn, the first moves forward: needed for the converse simulation).  A return is a
    case of its own because nothing is asked of what follows it (dead code may differ); the first side of a
    window makes a turn (`0 < k`) so that `Corr.sim` can recur on less fuel; `empty` is for the callers of
    `loop` (`run`, `invoke`), which refuse an empty body before they enter it. -/
structure BodySim (M M' : Machine) (obj : HostVal) (c c' : Bytes) (R : Nat → Nat → Prop) : Prop where
  start : R 0 0
  empty : c'.isEmpty = c.isEmpty
  pt : ∀ ip ip', R ip ip' →
      (c.length ≤ ip ∧ c'.length ≤ ip')
    ∨ (∃ i i', Fetch c ip i ∧ Fetch c' ip' i' ∧ i'.op = i.op ∧
         ((i.op = .jump ∧ i.arg < c.length ∧ i'.arg < c'.length ∧ R i.arg i'.arg) ∨
          (i.op = .jumpIfFalse ∧ i.arg < c.length ∧ i'.arg < c'.length ∧ R i.arg i'.arg ∧ R (ip + 3) (ip' + 3)) ∨
          (i.op = .return ∧ i'.arg = i.arg) ∨
          (i.op ≠ .jump ∧ i.op ≠ .jumpIfFalse ∧ i'.arg = i.arg ∧ R (ip + i.op.length) (ip' + i.op.length))))
    ∨ (∀ stack st st', StEq false st st' → ∃ k k' e e' stack1 st1 st1', 0 < k ∧
         Steps M obj c k (ip, stack, st) (e, stack1, st1) ∧ Steps M' obj c' k' (ip', stack, st') (e', stack1, st1') ∧
         R e e' ∧ StEq false st1 st1' ∧ (0 < k' ∨ (ip < e ∧ e ≤ c.length)))

/-- `MRel (BRel M M' obj) M M'` speaks of `M` and `M'` on both sides (a window is crossed by `loop M`); it is
    not circular, since the validators give `BodySim` for any two machines (`validStep_sound` …). -/
def BRel (M M' : Machine) (obj : HostVal) (c c' : Bytes) : Prop := ∃ R, BodySim M M' obj c c' R

/-- `Exec.NeverDone` again (the two unfold to the same) -/
def NeverDone (M : Machine) : Prop := ∀ n, M.done n = false

theorem MRel.neverDone {B : Bytes → Bytes → Prop} {M M' : Machine} (h : MRel B M M') (hnd : NeverDone M) : NeverDone M' :=
  fun k => by rw [h.done]; exact hnd k

/-- `BodySim` made symmetric: in a window either side may stand still while the other moves forward (in
    `BodySim` only the second may).  The converse of such a correspondence is one again (`Corr.symm`), so
    the simulation is proved in one direction only. -/
structure Corr (M M' : Machine) (obj : HostVal) (c c' : Bytes) (R : Nat → Nat → Prop) : Prop where
  start : R 0 0
  empty : c'.isEmpty = c.isEmpty
  pt : ∀ ip ip', R ip ip' →
      (c.length ≤ ip ∧ c'.length ≤ ip')
    ∨ (∃ op a a', Fetch c ip ⟨op, a⟩ ∧ Fetch c' ip' ⟨op, a'⟩ ∧
         ((op = .jump ∧ a < c.length ∧ a' < c'.length ∧ R a a') ∨
          (op = .jumpIfFalse ∧ a < c.length ∧ a' < c'.length ∧ R a a' ∧ R (ip + 3) (ip' + 3)) ∨
          (op = .return ∧ a' = a) ∨
          (op ≠ .jump ∧ op ≠ .jumpIfFalse ∧ a' = a ∧ R (ip + op.length) (ip' + op.length))))
    ∨ (∀ stack st st', StEq false st st' → ∃ k k' e e' stack1 st1 st1',
         Steps M obj c k (ip, stack, st) (e, stack1, st1) ∧ Steps M' obj c' k' (ip', stack, st') (e', stack1, st1') ∧
         R e e' ∧ StEq false st1 st1' ∧
         (0 < k ∨ (ip' < e' ∧ e' ≤ c'.length)) ∧ (0 < k' ∨ (ip < e ∧ e ≤ c.length)))

def CRel (M M' : Machine) (obj : HostVal) (c c' : Bytes) : Prop := ∃ R, Corr M M' obj c c' R

theorem BodySim.corr {M M' : Machine} {obj : HostVal} {c c' : Bytes} {R : Nat → Nat → Prop}
    (h : BodySim M M' obj c c' R) : Corr M M' obj c c' R := by
  refine ⟨h.start, h.empty, fun ip ip' hR => ?_⟩
  rcases h.pt ip ip' hR with h1 | ⟨⟨op, a⟩, ⟨op', a'⟩, hf, hf', hop, hcase⟩ | hw
  · exact .inl h1
  · cases hop
    exact .inr (.inl ⟨op, a, a', hf, hf', hcase⟩)
  · refine .inr (.inr fun stack st st' hst => ?_)
    obtain ⟨k, k', e, e', stack1, st1, st1', hk, hS, hS', hRe, hst1, hk'⟩ := hw stack st st' hst
    exact ⟨k, k', e, e', stack1, st1, st1', hS, hS', hRe, hst1, .inl hk, hk'⟩

theorem Corr.symm {M M' : Machine} {obj : HostVal} {c c' : Bytes} {R : Nat → Nat → Prop}
    (h : Corr M M' obj c c' R) : Corr M' M obj c' c (fun ip' ip => R ip ip') := by
  refine ⟨h.start, h.empty.symm, fun ip' ip hR => ?_⟩
  rcases h.pt ip ip' hR with ⟨h1, h2⟩ | ⟨op, a, a', hf, hf', hcase⟩ | hw
  · exact .inl ⟨h2, h1⟩
  · refine .inr (.inl ⟨op, a', a, hf', hf, ?_⟩)
    rcases hcase with ⟨hj, ha, ha', hRa⟩ | ⟨hj, ha, ha', hRa, hRn⟩ | ⟨hr, he⟩ | ⟨h1, h2, he, hRn⟩
    · exact .inl ⟨hj, ha', ha, hRa⟩
    · exact .inr (.inl ⟨hj, ha', ha, hRa, hRn⟩)
    · exact .inr (.inr (.inl ⟨hr, he.symm⟩))
    · exact .inr (.inr (.inr ⟨h1, h2, he.symm, hRn⟩))
  · refine .inr (.inr fun stack st' st hst => ?_)
    obtain ⟨k, k', e, e', stack1, st1, st1', hS, hS', hRe, hst1, hk, hk'⟩ := hw stack st st' hst.symm
    exact ⟨k', k, e', e, stack1, st1', st1, hS', hS, hRe, hst1.symm, hk', hk⟩

theorem MRel.corr {M M' : Machine} {obj : HostVal} (h : MRel (BRel M M' obj) M M') : MRel (CRel M M' obj) M M' :=
  h.mono fun _ _ ⟨R, hR⟩ => ⟨R, hR.corr⟩

theorem CRel.symm {M M' : Machine} {obj : HostVal} {c c' : Bytes} : CRel M M' obj c c' → CRel M' M obj c' c :=
  fun ⟨_, hR⟩ => ⟨_, hR.symm⟩

theorem MRel.symm_corr {M M' : Machine} {obj : HostVal} (h : MRel (CRel M M' obj) M M') : MRel (CRel M' M obj) M' M :=
  h.symm.mono fun _ _ => CRel.symm

/-- **Simulation**, for the symmetric correspondence: by induction on the first machine's fuel and, for the
    windows in which it stands still, on the second machine's distance to the end of its body. -/
theorem Corr.sim {M M' : Machine} {obj : HostVal} (hM : MRel (CRel M M' obj) M M') (hnd : NeverDone M) :
    ∀ (f : Nat) (c c' : Bytes) (R : Nat → Nat → Prop), Corr M M' obj c c' R →
      ∀ (d ip ip' : Nat), c'.length - ip' = d → R ip ip' → ∀ (stack : List Value) (st st' : RunSt), StEq false st st' →
      (loop M obj c f ip stack st).1 ≠ .error .outOfFuel →
      ∃ f', OutEq false (loop M obj c f ip stack st) (loop M' obj c' f' ip' stack st') := by
  have hnd' := hM.neverDone hnd
  intro f
  induction f using Nat.strongRecOn with
  | ind f ih =>
    intro c c' R hB d
    induction d using Nat.strongRecOn with
    | ind d ihd =>
      intro ip ip' hd hR stack st st' hst hno
      cases f with
      | zero => simp [loop] at hno
      | succ n =>
        rcases hB.pt ip ip' hR with ⟨h1, h2⟩ | ⟨op, a, a', hf, hf', hcase⟩ | hw
        · refine ⟨1, ?_⟩
          rw [loop, loop]
          simp only [ge_iff_le, h1, h2, ↓reduceIte]
          exact ⟨rfl, hst⟩
        · rw [loop_fetch_nd M obj hf n stack st (hnd _)] at hno ⊢
          have hst1 := hst.polls (st.polls + 1) (st'.polls + 1)
          generalize hso : step M obj c.length (fun c s => loop M obj c n 0 [] s) op.toNat a (ip + op.length) stack
            { st with polls := st.polls + 1 } = so at hno ⊢
          -- the two instructions give related outcomes, the second's nested run having fuel `f2` or more
          obtain ⟨f2, nx, nx', so', hrel, hRn, hsame⟩ : ∃ f2 nx nx' so', StepRel false nx nx' so so' ∧
              (∀ j s t, so = .cont j s t → R nx nx') ∧
              ∀ F, f2 ≤ F → step M' obj c'.length (fun c s => loop M' obj c F 0 [] s) op.toNat a' (ip' + op.length) stack
                { st' with polls := st'.polls + 1 } = so' := by
            rcases hcase with ⟨rfl, ha, ha', hRa⟩ | ⟨rfl, ha, ha', hRa, hRn⟩ | hrest
            · rw [Exec.step_jump ha] at hso
              subst hso
              exact ⟨0, a, a', .cont a' stack _, ⟨rfl, rfl, rfl, hst1⟩, fun _ _ _ _ => hRa, fun F _ => Exec.step_jump ha'⟩
            · cases stack with
              | nil =>
                subst hso
                exact ⟨0, 0, 0, .halt (err "underflow") _, ⟨rfl, hst1⟩, fun _ _ _ h => StepOut.noConfusion h, fun F _ => rfl⟩
              | cons v rest =>
                rw [Exec.step_jif ha] at hso
                subst hso
                refine ⟨0, if v.truthy then ip + 3 else a, if v.truthy then ip' + 3 else a', .cont _ rest _, ⟨rfl, rfl, rfl, hst1⟩,
                  fun _ _ _ _ => ?_, fun F _ => Exec.step_jif ha'⟩
                cases v.truthy
                · exact hRa
                · exact hRn
            · have hopn : op ≠ .jump ∧ op ≠ .jumpIfFalse := by
                rcases hrest with ⟨rfl, _⟩ | ⟨h1, h2, _⟩
                · exact ⟨by decide, by decide⟩
                · exact ⟨h1, h2⟩
              have harg : a' = a := by
                rcases hrest with ⟨_, h⟩ | ⟨_, _, h, _⟩ <;> exact h
              subst harg
              obtain ⟨f2, so', hrel, hsame⟩ := step_sim_nested hM obj c.length c'.length
                (fun c s => loop M obj c n 0 [] s) (fun F c s => loop M' obj c F 0 [] s)
                (fun f c s => loop_mono M' obj f c 0 [] s)
                (fun c c' s s' ⟨R2, hB2⟩ hs => ih n (Nat.lt_succ_self n) c c' R2 hB2 _ 0 0 rfl hB2.start [] s s' hs)
                op hopn a' (ip + op.length) (ip' + op.length) stack _ _ hst1
                (fun s hs => by rw [hso] at hs; subst hs; exact hno rfl)
              rw [hso] at hrel
              refine ⟨f2, _, _, so', hrel, fun j s t hj => ?_, hsame⟩
              rcases hrest with ⟨rfl, _⟩ | ⟨_, _, _, h⟩
              · -- a return never continues
                exfalso
                subst hj
                have : Op.ofNat? Op.return.toNat = some .return := rfl
                simp only [step, this, isBinary] at hso
                cases stack <;> simp at hso
              · exact h
          cases so with
          | halt r s =>
            cases so' with
            | cont _ _ _ => exact hrel.elim
            | halt r' s' =>
              refine ⟨f2 + 1, ?_⟩
              rw [loop_fetch_nd M' obj hf' f2 stack st' (hnd' _), hsame f2 (Nat.le_refl _)]
              exact hrel
          | cont j stk t =>
            cases so' with
            | halt _ _ => exact hrel.elim
            | cont j' stk' t' =>
              obtain ⟨rfl, rfl, rfl, ht⟩ := hrel
              obtain ⟨f3, h3⟩ := ih n (Nat.lt_succ_self n) c c' R hB _ _ _ rfl (hRn _ _ _ rfl) stk t t' ht hno
              have hne : (loop M' obj c' f3 j' stk t').1 ≠ .error .outOfFuel := by rw [← h3.1]; exact hno
              refine ⟨max f2 f3 + 1, ?_⟩
              rw [loop_fetch_nd M' obj hf' _ stack st' (hnd' _), hsame _ (Nat.le_max_left _ _)]
              simp only
              rw [loop_mono M' obj f3 c' _ stk t' hne _ (Nat.le_max_right _ _)]
              exact h3
        · -- a window: fewer turns are left to the first machine, or as many and the second is nearer to its end
          obtain ⟨k, k', e, e', stack1, st1, st1', hS, hS', hRe, hst1, hk, _⟩ := hw stack st st' hst
          have hge : k ≤ n + 1 := Nat.le_of_not_lt fun hlt => hno (hS.oof (n + 1) hlt)
          have hrun := hS.run (n + 1 - k)
          rw [show n + 1 - k + k = n + 1 by omega] at hrun
          rw [hrun] at hno ⊢
          obtain ⟨f3, h3⟩ : ∃ f3, OutEq false (loop M obj c (n + 1 - k) e stack1 st1) (loop M' obj c' f3 e' stack1 st1') := by
            by_cases hk0 : 0 < k
            · exact ih (n + 1 - k) (by omega) c c' R hB _ e e' rfl hRe stack1 st1 st1' hst1 hno
            · obtain rfl : k = 0 := by omega
              exact ihd (c'.length - e') (by omega) e e' rfl hRe stack1 st1 st1' hst1 hno
          exact ⟨f3 + k', by rw [hS'.run f3]; exact h3⟩

/-- **Simulation.**  If the bodies of two machines correspond point by point (`BodySim`), a run of the first
    that ends (with whatever result) is matched by a run of the second that ends with the same result, output
    and variables - from corresponding instruction pointers, with the same stack, at any call depth.
    `sim` and `sim_back` state the result for `BodySim`; `optimize_refines` uses `Corr.sim`, via `BodySim.corr`. -/
theorem sim {M M' : Machine} {obj : HostVal} (hM : MRel (BRel M M' obj) M M') (hnd : NeverDone M) :
    ∀ (f : Nat) (c c' : Bytes) (R : Nat → Nat → Prop), BodySim M M' obj c c' R →
      ∀ ip ip', R ip ip' → ∀ (stack : List Value) (st st' : RunSt), StEq false st st' →
      (loop M obj c f ip stack st).1 ≠ .error .outOfFuel →
      ∃ f', OutEq false (loop M obj c f ip stack st) (loop M' obj c' f' ip' stack st') :=
  fun f c c' R hB ip ip' hR =>
    Corr.sim hM.corr hnd f c c' R hB.corr _ ip ip' rfl hR

/-- **The converse simulation**: a run of the second machine that ends is matched by one of the first. -/
theorem sim_back {M M' : Machine} {obj : HostVal} (hM : MRel (BRel M M' obj) M M') (hnd : NeverDone M) :
    ∀ (f' : Nat) (c c' : Bytes) (R : Nat → Nat → Prop), BodySim M M' obj c c' R →
      ∀ (d : Nat) ip ip', c.length - ip = d → R ip ip' → ∀ (stack : List Value) (st st' : RunSt), StEq false st st' →
      (loop M' obj c' f' ip' stack st').1 ≠ .error .outOfFuel →
      ∃ f, OutEq false (loop M obj c f ip stack st) (loop M' obj c' f' ip' stack st') :=
  fun f' c c' _ hB d ip ip' hd hR stack st st' hst hno =>
    (Corr.sim hM.corr.symm_corr (hM.neverDone hnd) f' c' c _ hB.corr.symm d ip' ip hd hR
      stack st' st hst.symm hno).imp fun _ => OutEq.symm

end EvalFilter.OptSim
