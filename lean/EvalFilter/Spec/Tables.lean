/-
  SPEC-side tables: the hand-written expectations for everything in the Go source
  that is a table.  `Props/Tables.lean` proves (kernel evaluation) that

    * the table regenerated from /repo's current source equals the one below, and
    * the model's functions (`Parser.precedence`, `Op.toNat`, `Lexer.slashDivAfter`,
      `lookupIdentifier`, …) agree with the table below on every token / opcode.

  A changed table entry in Go therefore breaks a proof obligation on the next run.
-/
namespace EvalFilter.Spec.Tables

/-- (name, number, length) of every opcode (code/code.go) -/
def opcodes : List (String × Nat × Nat) := [
  ("OpConstant", 0, 3),
  ("OpJump", 1, 3),
  ("OpJumpIfFalse", 2, 3),
  ("OpCall", 3, 3),
  ("OpLookup", 4, 3),
  ("OpPush", 5, 3),
  ("OpArray", 6, 3),
  ("OpHash", 7, 3),
  ("OpNop", 8, 1),
  ("OpPlaceholder", 9, 1),
  ("OpSet", 10, 1),
  ("OpLocal", 11, 1),
  ("OpTrue", 12, 1),
  ("OpFalse", 13, 1),
  ("OpVoid", 14, 1),
  ("OpCase", 15, 1),
  ("OpAdd", 16, 1),
  ("OpSub", 17, 1),
  ("OpMul", 18, 1),
  ("OpDiv", 19, 1),
  ("OpMod", 20, 1),
  ("OpPower", 21, 1),
  ("OpInc", 22, 3),
  ("OpDec", 23, 3),
  ("OpReturn", 24, 1),
  ("OpMinus", 25, 1),
  ("OpBang", 26, 1),
  ("OpSquareRoot", 27, 1),
  ("OpLess", 28, 1),
  ("OpLessEqual", 29, 1),
  ("OpGreater", 30, 1),
  ("OpGreaterEqual", 31, 1),
  ("OpEqual", 32, 1),
  ("OpNotEqual", 33, 1),
  ("OpMatches", 34, 1),
  ("OpNotMatches", 35, 1),
  ("OpAnd", 36, 1),
  ("OpOr", 37, 1),
  ("OpIndex", 38, 1),
  ("OpArrayIn", 39, 1),
  ("OpIterationReset", 40, 1),
  ("OpIterationNext", 41, 1),
  ("OpRange", 42, 1)
]

/-- token type constants and their string values (token/token.go) -/
def tokenTypes : List (String × String) := [
  ("AND", "&&"),
  ("ASSIGN", "="),
  ("ASTERISK", "*"),
  ("ASTERISKEQUALS", "*="),
  ("BANG", "!"),
  ("CASE", "case"),
  ("COLON", ":"),
  ("COMMA", ","),
  ("CONTAINS", "~="),
  ("DEFAULT", "DEFAULT"),
  ("DOTDOT", ".."),
  ("ELSE", "ELSE"),
  ("EOF", "EOF"),
  ("EQ", "=="),
  ("FALSE", "FALSE"),
  ("FLOAT", "FLOAT"),
  ("FOR", "FOR"),
  ("FOREACH", "FOREACH"),
  ("FUNCTION", "FUNCTION"),
  ("GT", ">"),
  ("GTEQUALS", ">="),
  ("IDENT", "IDENT"),
  ("IF", "IF"),
  ("ILLEGAL", "ILLEGAL"),
  ("IN", "IN"),
  ("INT", "INT"),
  ("LBRACE", "{"),
  ("LOCAL", "LOCAL"),
  ("LPAREN", "("),
  ("LSQUARE", "["),
  ("LT", "<"),
  ("LTEQUALS", "<="),
  ("MINUS", "-"),
  ("MINUSEQUALS", "-="),
  ("MINUSMINUS", "--"),
  ("MISSING", "!~"),
  ("MOD", "%"),
  ("NOTEQ", "!="),
  ("OR", "||"),
  ("PERIOD", "."),
  ("PLUS", "+"),
  ("PLUSEQUALS", "+="),
  ("PLUSPLUS", "++"),
  ("POW", "**"),
  ("QUESTION", "?"),
  ("RBRACE", "}"),
  ("REGEXP", "REGEXP"),
  ("RETURN", "RETURN"),
  ("RPAREN", ")"),
  ("RSQUARE", "]"),
  ("SEMICOLON", ";"),
  ("SLASH", "/"),
  ("SLASHEQUALS", "/="),
  ("SQRT", "√"),
  ("STRING", "STRING"),
  ("SWITCH", "switch"),
  ("TRUE", "TRUE"),
  ("WHILE", "WHILE")
]

/-- reserved words (token/token.go) -/
def keywords : List (String × String) := [
  ("case", "CASE"),
  ("default", "DEFAULT"),
  ("else", "ELSE"),
  ("false", "FALSE"),
  ("for", "FOR"),
  ("foreach", "FOREACH"),
  ("function", "FUNCTION"),
  ("if", "IF"),
  ("in", "IN"),
  ("local", "LOCAL"),
  ("return", "RETURN"),
  ("switch", "SWITCH"),
  ("true", "TRUE"),
  ("while", "WHILE")
]

/-- token types after which `/` divides (lexer/lexer.go) -/
def slashDivAfter : List String := ["FLOAT", "IDENT", "INT", "RPAREN", "RSQUARE"]

/-- precedence levels, lowest first; documented order: ternary < assignment/range < && || < == != < comparisons/~=/!~/in < + - < * / < ** < % < prefix < call < index -/
def precedenceLevels : List String := ["_", "LOWEST", "TERNARY", "ASSIGN", "COND", "EQUALS", "CMP", "LESSGREATER", "SUM", "PRODUCT", "POWER", "MOD", "PREFIX", "CALL", "INDEX"]

/-- token → level (parser/parser.go) -/
def precedences : List (String × String) := [
  ("AND", "COND"),
  ("ASSIGN", "ASSIGN"),
  ("ASTERISK", "PRODUCT"),
  ("ASTERISKEQUALS", "ASSIGN"),
  ("CONTAINS", "LESSGREATER"),
  ("DOTDOT", "ASSIGN"),
  ("EQ", "EQUALS"),
  ("GT", "LESSGREATER"),
  ("GTEQUALS", "LESSGREATER"),
  ("IN", "LESSGREATER"),
  ("LPAREN", "CALL"),
  ("LSQUARE", "INDEX"),
  ("LT", "LESSGREATER"),
  ("LTEQUALS", "LESSGREATER"),
  ("MINUS", "SUM"),
  ("MINUSEQUALS", "ASSIGN"),
  ("MISSING", "LESSGREATER"),
  ("MOD", "MOD"),
  ("NOTEQ", "EQUALS"),
  ("OR", "COND"),
  ("PERIOD", "INDEX"),
  ("PLUS", "SUM"),
  ("PLUSEQUALS", "ASSIGN"),
  ("POW", "POWER"),
  ("QUESTION", "TERNARY"),
  ("SLASH", "PRODUCT"),
  ("SLASHEQUALS", "ASSIGN")
]

/-- parselet registrations -/
def parselets : List (String × String × String) := [
  ("Infix", "AND", "parseInfixExpression"),
  ("Infix", "ASSIGN", "parseAssignExpression"),
  ("Infix", "ASTERISK", "parseInfixExpression"),
  ("Infix", "ASTERISKEQUALS", "parseInfixExpression"),
  ("Infix", "CONTAINS", "parseInfixExpression"),
  ("Infix", "DOTDOT", "parseInfixExpression"),
  ("Infix", "EQ", "parseInfixExpression"),
  ("Infix", "GT", "parseInfixExpression"),
  ("Infix", "GTEQUALS", "parseInfixExpression"),
  ("Infix", "IN", "parseInfixExpression"),
  ("Infix", "LPAREN", "parseCallExpression"),
  ("Infix", "LSQUARE", "parseIndexExpression"),
  ("Infix", "LT", "parseInfixExpression"),
  ("Infix", "LTEQUALS", "parseInfixExpression"),
  ("Infix", "MINUS", "parseInfixExpression"),
  ("Infix", "MINUSEQUALS", "parseInfixExpression"),
  ("Infix", "MISSING", "parseInfixExpression"),
  ("Infix", "MOD", "parseInfixExpression"),
  ("Infix", "NOTEQ", "parseInfixExpression"),
  ("Infix", "OR", "parseInfixExpression"),
  ("Infix", "PERIOD", "parseInfixExpression"),
  ("Infix", "PLUS", "parseInfixExpression"),
  ("Infix", "PLUSEQUALS", "parseInfixExpression"),
  ("Infix", "POW", "parseInfixExpression"),
  ("Infix", "QUESTION", "parseTernaryExpression"),
  ("Infix", "SLASH", "parseInfixExpression"),
  ("Infix", "SLASHEQUALS", "parseInfixExpression"),
  ("Postfix", "MINUSMINUS", "parsePostfixExpression"),
  ("Postfix", "PLUSPLUS", "parsePostfixExpression"),
  ("Prefix", "BANG", "parsePrefixExpression"),
  ("Prefix", "EOF", "parseEOF"),
  ("Prefix", "FALSE", "parseBooleanLiteral"),
  ("Prefix", "FLOAT", "parseFloatLiteral"),
  ("Prefix", "FOR", "parseWhileStatement"),
  ("Prefix", "FOREACH", "parseForEach"),
  ("Prefix", "FUNCTION", "parseFunctionDefinition"),
  ("Prefix", "IDENT", "parseIdentifier"),
  ("Prefix", "IF", "parseIfExpression"),
  ("Prefix", "ILLEGAL", "parseIllegal"),
  ("Prefix", "INT", "parseIntegerLiteral"),
  ("Prefix", "LBRACE", "parseHashLiteral"),
  ("Prefix", "LOCAL", "parseLocalVariable"),
  ("Prefix", "LPAREN", "parseGroupedExpression"),
  ("Prefix", "LSQUARE", "parseArrayLiteral"),
  ("Prefix", "MINUS", "parsePrefixExpression"),
  ("Prefix", "REGEXP", "parseRegexpLiteral"),
  ("Prefix", "SQRT", "parsePrefixExpression"),
  ("Prefix", "STRING", "parseStringLiteral"),
  ("Prefix", "SWITCH", "parseSwitchStatement"),
  ("Prefix", "TRUE", "parseBooleanLiteral"),
  ("Prefix", "WHILE", "parseWhileStatement")
]

/-- the precedence every parselet passes to parseExpression -/
def parseExpressionCalls : List (String × String) := [
  ("parseAssignExpression", "LOWEST"),
  ("parseBracketExpression", "LOWEST"),
  ("parseExpressionList", "LOWEST"),
  ("parseExpressionList", "LOWEST"),
  ("parseExpressionStatement", "LOWEST"),
  ("parseForEach", "LOWEST"),
  ("parseGroupedExpression", "LOWEST"),
  ("parseHashLiteral", "LOWEST"),
  ("parseHashLiteral", "LOWEST"),
  ("parseIndexExpression", "LOWEST"),
  ("parseInfixExpression", "precedence"),
  ("parsePrefixExpression", "PREFIX"),
  ("parseReturnStatement", "LOWEST"),
  ("parseSwitchStatement", "LOWEST"),
  ("parseSwitchStatement", "LOWEST"),
  ("parseTernaryExpression", "precedence"),
  ("parseTernaryExpression", "precedence"),
  ("parseWhileStatement", "LOWEST")
]

/-- infix operator → opcodes emitted -/
def compileInfixOps : List (String × String) := [
  ("!=", "OpNotEqual"),
  ("!~", "OpNotMatches"),
  ("%", "OpMod"),
  ("&&", "OpAnd"),
  ("*", "OpMul"),
  ("**", "OpPower"),
  ("*=", "OpMul"),
  ("*=", "OpSet"),
  ("+", "OpAdd"),
  ("+=", "OpAdd"),
  ("+=", "OpSet"),
  ("-", "OpSub"),
  ("-=", "OpSet"),
  ("-=", "OpSub"),
  (".", "OpIndex"),
  ("..", "OpRange"),
  ("/", "OpDiv"),
  ("/=", "OpDiv"),
  ("/=", "OpSet"),
  ("<", "OpLess"),
  ("<=", "OpLessEqual"),
  ("==", "OpEqual"),
  (">", "OpGreater"),
  (">=", "OpGreaterEqual"),
  ("in", "OpArrayIn"),
  ("||", "OpOr"),
  ("~=", "OpMatches")
]

/-- prefix operator → opcode -/
def compilePrefixOps : List (String × String) := [
  ("!", "OpBang"),
  ("-", "OpMinus"),
  ("√", "OpSquareRoot")
]

/-- bounds of the integers pushed inline with OpPush -/
def inlineIntBounds : List String := ["0", "65534"]

/-- built-in registry (environment/environment.go) -/
def builtins : List (String × String) := [
  ("between", "fnBetween"),
  ("float", "fnFloat"),
  ("getenv", "fnGetenv"),
  ("int", "fnInt"),
  ("join", "fnJoin"),
  ("keys", "fnKeys"),
  ("len", "fnLen"),
  ("lower", "fnLower"),
  ("match", "fnMatch"),
  ("max", "fnMax"),
  ("min", "fnMin"),
  ("now", "fnNow"),
  ("panic", "fnPanic"),
  ("print", "fnPrint"),
  ("printf", "fnPrintf"),
  ("replace", "fnReplace"),
  ("reverse", "fnReverse"),
  ("sort", "fnSort"),
  ("split", "fnSplit"),
  ("sprintf", "fnSprintf"),
  ("string", "fnString"),
  ("time", "fnNow"),
  ("trim", "fnTrim"),
  ("type", "fnType"),
  ("upper", "fnUpper"),
  ("hour", "fnHour"),
  ("minute", "fnMinute"),
  ("seconds", "fnSeconds"),
  ("day", "fnDay"),
  ("month", "fnMonth"),
  ("year", "fnYear"),
  ("weekday", "fnWeekday")
]

/-- the only places that write to an object in place: the iteration offsets (private to a loop since the copy at OpIterationReset) and Increase/Decrease (called on a fresh copy by OpInc/OpDec) -/
def mutationSites : List String := [
  "object:*Array.Next write Array.offset",
  "object:*Array.Reset write Array.offset",
  "object:*Float.Decrease write Float.Value",
  "object:*Float.Increase write Float.Value",
  "object:*Hash.Next write Hash.offset",
  "object:*Hash.Reset write Hash.offset",
  "object:*Integer.Decrease write Integer.Value",
  "object:*Integer.Increase write Integer.Value",
  "object:*String.Next write String.offset",
  "object:*String.Reset write String.offset",
  "vm:*VM.Run call Decrease",
  "vm:*VM.Run call Increase",
  "vm:*VM.Run call Next",
  "vm:*VM.Run call Reset"
]

/-- Run = Lock; Execute; Unlock; …  and Prepare holds the lock throughout -/
def apiShapes : List String := [
  "Prepare/0: e.mutex.Lock()",
  "Prepare/1: defer e.mutex.Unlock()",
  "Run/0: e.mutex.Lock()",
  "Run/1: out, err := e.Execute(obj)",
  "Run/2: e.mutex.Unlock()",
  "Run/3: if err != nil {…}",
  "Run/4: return out.True(), nil"
]

/-- package-level variables -/
def packageVars : List String := [
  "code.OpCodeNames",
  "environment.regCache",
  "environment.regCacheLock",
  "parser.precedences",
  "token.keywords",
  "vm.False",
  "vm.Null",
  "vm.True",
  "vm.Void"
]

def maxProgramSize : Nat := 65536
def defaultOpLength : Nat := 1

/-! ### C10: what the library may reference outside itself -/

/-- packages that only compute (no file, network or process access through them) -/
def purePackages : List String :=
  ["bytes", "context", "encoding/binary", "errors", "hash", "hash/fnv", "math", "reflect", "regexp",
   "sort", "strconv", "strings", "sync", "unicode", "unicode/utf8"]

/-- individually allowed symbols of packages that can reach the outside world:
    formatting and writing to standard output (fmt), reading the environment (os.Getenv),
    the clock and the time-zone database (time), and the `Write` of an in-memory hash (io.Writer) -/
def allowedSymbols : List (String × String) :=
  [("fmt", "Sprintf"), ("fmt", "Errorf"), ("fmt", "Printf"), ("fmt", "Print"), ("fmt", "Println"), ("fmt", "Sprint"),
   ("os", "Getenv"),
   ("time", "Now"), ("time", "LoadLocation"), ("time", "Unix"), ("time", "Time"), ("time", "Time.Clock"),
   ("time", "Time.Date"), ("time", "Time.In"), ("time", "Time.Unix"), ("time", "Time.Weekday"),
   ("time", "Weekday.String"), ("time", "Weekday"), ("time", "Month"), ("time", "Location"),
   ("io", "Writer.Write")]

def refAllowed (r : String × String × String) : Bool :=
  purePackages.contains r.2.1 || allowedSymbols.contains (r.2.1, r.2.2)

/-- imports: the standard-library packages above, plus the module's own packages -/
def importAllowed (r : String × String) : Bool :=
  purePackages.contains r.2 || ["fmt", "os", "time", "io"].contains r.2 ||
  r.2.startsWith "github.com/skx/evalfilter/v2/"

/-! ### C11: package-level variables are read-only after init, or guarded by one mutex -/

/-- variables that are written after package initialisation, with the mutex that guards them -/
def guardedVars : List (String × String) := [("environment.regCache", "regCacheLock")]

/-- one entry of `packageVarAccesses`: (variable, function, read|write, mutex held, init|other).
    A variable that is written after initialisation must always be accessed under its mutex;
    any other variable may only be read outside `init`. -/
def accessOk (a : String × String × String × String × String) : Bool :=
  match guardedVars.lookup a.1 with
  | some l => a.2.2.2.1 == l || a.2.2.2.2 == "init"
  | none => a.2.2.1 == "read" || a.2.2.2.2 == "init"

end EvalFilter.Spec.Tables
